import CgtModel.Lemmas.Spec
import CgtModel.Lemmas.Cost
import CgtModel.Lemmas.Prepass
/-! The matcher model and the independent statutory evaluation `Spec` agree on one security's day list
    with at most one SELL line per day (a purchase's cost includes the offset the cost pre-pass wrote on its
    day, see `ofDay`). The matcher makes one pass and carries, for the days to come, the claims made on
    them so far; `Spec` fills a matrix of claims row by row and walks the days afterwards. What ties the
    two is `ColsAt`: the carried claims are the column sums of the rows filled so far. That the walk can be
    followed day by day while the matrix is still being filled is `claims_split`: rows filled later claim
    later days only, so day `i`'s row and column sum are final once row `i` is filled. -/
namespace Cgt
open Spec

def ofDay (d : Day) : SDay :=
  { date := d.date
    B := d.B
    Bcost := match d.buy with | some b => b.q * b.p + b.f + d.offset | none => 0
    S := d.S
    Sgross := rsum (d.sells.map (fun s => s.q * s.p))
    Sfees := rsum (d.sells.map (·.f))
    r := d.r }

/-- what is compared of a leg: rule, quantity, allowable cost, acquisition date. Left out are the date of
    the disposal (`LegFrom.sellDate` has it) and the leg's proceeds and gain (`LegFrom.legOf`,
    `C04_sell_proceeds`): `Spec` has proceeds for a whole disposal only, not for a leg -/
def legView (l : Leg) : Rule × Rat × Rat × Option Date := (l.rule, l.qty, l.cost, l.acq)
def slegView (l : SLeg) : Rule × Rat × Rat × Option Date := (l.rule, l.qty, l.cost, l.acq)

theorem ofDay_S (d : Day) : (ofDay d).S = d.S := rfl
theorem ofDay_B (d : Day) : (ofDay d).B = d.B := rfl
theorem ofDay_r (d : Day) : (ofDay d).r = d.r := rfl
theorem ofDay_date (d : Day) : (ofDay d).date = d.date := rfl
theorem sameDay_ofDay (d : Day) : sameDay (ofDay d) = min d.B d.S := rfl

theorem fromPool_ofDay (d : Day) (mine : List Claim) :
    fromPool (ofDay d) mine = d.S - min d.B d.S - rsum (mine.map (·.x)) := rfl

theorem unitCost_ofDay (d : Day) : Spec.unitCost (ofDay d) = dayUnit d := by
  unfold Spec.unitCost dayUnit ofDay Day.B
  cases hb : d.buy with
  | none => simp
  | some b => by_cases hq : b.q = 0 <;> simp [unitCost, hq]

/-- `f` will be the column sums `claimedOn cs` of a claims list; a list that is too short stands for zeros, as in
    the model -/
def ColsAt (f : Nat → Rat) (j n : Nat) (cl : List Rat) : Prop := ∀ m, m < n → cl.getD m 0 = f (j + m)

theorem colsAt_succ {f : Nat → Rat} {j n : Nat} {cl : List Rat} :
    ColsAt f j (n + 1) cl ↔ cl.headD 0 = f j ∧ ColsAt f (j + 1) n cl.tail := by
  constructor
  · intro h
    refine ⟨by rw [headD_getD]; exact h 0 (Nat.succ_pos _), fun m hm => ?_⟩
    rw [getD_tail, h (m + 1) (Nat.succ_lt_succ hm), Nat.add_right_comm, Nat.add_assoc]
  · rintro ⟨h0, h⟩ m hm
    cases m with
    | zero => rw [← headD_getD]; exact h0
    | succ m => rw [← getD_tail, h m (Nat.lt_of_succ_lt_succ hm), Nat.add_right_comm, Nat.add_assoc]

theorem availFor_eq (e : Day) (c : Rat) (hS : 0 ≤ e.S) :
    availFor e c = max 0 ((ofDay e).B - sameDay (ofDay e) - c) := by
  unfold availFor sameDay
  rw [show max e.S 0 = e.S by grind]; rfl

theorem availFor_of_free {e : Day} {c : Rat} (hS : 0 ≤ e.S) (hc : 0 ≤ c)
    (h : (ofDay e).B - sameDay (ofDay e) - c > 0) :
    (∃ b, e.buy = some b) ∧ availFor e c = (ofDay e).B - sameDay (ofDay e) - c ∧ 0 < availFor e c := by
  refine ⟨?_, by rw [availFor_eq e c hS]; grind, by rw [availFor_eq e c hS]; grind⟩
  cases hb : e.buy with
  | some b => exact ⟨b, rfl⟩
  | none =>
    unfold sameDay at h
    rw [ofDay_B, ofDay_S, Day.B_none hb] at h
    grind

theorem availFor_of_not_free {e : Day} {c : Rat} (hS : 0 ≤ e.S)
    (h : ¬ (ofDay e).B - sameDay (ofDay e) - c > 0) : availFor e c ≤ 0 := by
  rw [availFor_eq e c hS]; grind

/-- `dateAt n` and `ucAt n` are the date and the unit cost of day `n` of `Spec`'s table (`sellsStep_row` puts
    `(dayAt tbl n).date` and `unitCost (dayAt tbl n)`); as functions they keep the table out of the induction -/
theorem lookahead_row (w : Int) (i : Nat) (d0 : Date) (s : Trade) (cs : List Claim)
    (dateAt : Nat → Date) (ucAt : Nat → Rat) :
    ∀ (fs : List Day) (j : Nat) (rem k : Rat) (cl : List Rat),
      (∀ e ∈ fs, 0 ≤ e.S) →
      (∀ m, m < fs.length → cl.getD m 0 = claimedOn cs (j + m)) →
      (∀ m, m < fs.length → 0 ≤ cl.getD m 0) →
      (∀ m e, fs[m]? = some e → dateAt (j + m) = e.date ∧ ucAt (j + m) = (match e.buy with | some b => unitCost b e.offset | none => 0)) →
      let r := lookahead w d0 s rem k fs cl
      let new := row w i d0 cs j rem k (fs.map ofDay)
      r.2.2 = rem - rsum (new.map (·.x)) ∧
      (∀ m, m < fs.length → r.1.getD m 0 = claimedOn cs (j + m) + claimedOn new (j + m)) ∧
      r.2.1.map legView = new.map (fun c => (Rule.bedAndBreakfast, c.x, c.xk * ucAt c.j, some (dateAt c.j))) := by
  intro fs
  induction fs with
  | nil =>
    intro j rem k cl _ _ _ _
    exact ⟨(rat_sub_zero _).symm, fun m hm => absurd hm (Nat.not_lt_zero _), rfl⟩
  | cons e rest ih =>
    intro j rem k cl hS hcl hnn hat
    -- the second hypothesis and the second conclusion are `ColsAt`, written out
    obtain ⟨hc, hcl'⟩ := colsAt_succ.mp hcl
    have hc0 : 0 ≤ claimedOn cs j := by rw [← hc, headD_getD]; exact hnn 0 (Nat.succ_pos _)
    obtain ⟨hdate, huc⟩ := hat 0 e rfl
    rw [Nat.add_zero] at hdate huc
    have IH := fun rem' => ih (j + 1) rem' (k * e.r) cl.tail (fun x hx => hS x (List.mem_cons_of_mem _ hx)) hcl'
      (fun m hm => by rw [getD_tail]; exact hnn (m + 1) (Nat.succ_lt_succ hm))
      (fun m x hx => by have := hat (m + 1) x hx; rwa [← Nat.add_assoc, Nat.add_right_comm] at this)
    have hSe := hS e (List.mem_cons_self ..)
    show _ = rem - rsum ((row w i d0 cs j rem k (ofDay e :: rest.map ofDay)).map (·.x)) ∧
      ColsAt (fun t => claimedOn cs t + claimedOn (row w i d0 cs j rem k (ofDay e :: rest.map ofDay)) t) j (rest.length + 1) _ ∧
      _ = (row w i d0 cs j rem k (ofDay e :: rest.map ofDay)).map _
    by_cases hstop : rem ≤ 0 ∨ e.ord - d0.ord > w
    · rw [lookahead_stop w d0 s rem k (e :: rest) cl hstop, row_stop (e := ofDay e) hstop]
      exact ⟨(rat_sub_zero _).symm, fun m hm => by rw [hcl m hm]; exact (Rat.add_zero _).symm, rfl⟩
    · rw [not_or] at hstop
      have hrem := Rat.not_le.mp hstop.1
      have hwin : e.ord - d0.ord ≤ w := Int.not_lt.mp hstop.2
      by_cases hfree : free cs j (ofDay e) > 0
      · obtain ⟨⟨b, hb⟩, ha, hpos⟩ := availFor_of_free hSe hc0 hfree
        rw [lookahead_take w d0 s rem k e rest cl b hrem hwin hb (hc ▸ hpos), hc, ha,
          row_take (e := ofDay e) hstop.1 hstop.2 hfree, ofDay_r]
        obtain ⟨h1, h2, h3⟩ := IH (rem - min rem (free cs j (ofDay e) / k))
        refine ⟨?_, colsAt_succ.mpr ⟨?_, ?_⟩, ?_⟩
        · rw [h1, List.map_cons, rsum_cons, rat_sub_sub]
        · rw [List.headD_cons, claimedOn_cons, if_pos rfl,
            claimedOn_row_below (Nat.lt_succ_self j), Rat.add_zero]
        · intro m hm
          show _ = _ + claimedOn (_ :: _) _
          rw [claimedOn_cons, if_neg (by show ¬ j = j + 1 + m; omega), Rat.zero_add]
          exact h2 m hm
        · rw [List.map_cons, List.map_cons, h3, huc, hdate, hb]
          rfl
      · rw [lookahead_skip w d0 s rem k e rest cl hrem hwin (.inr (hc ▸ availFor_of_not_free hSe hfree)),
          row_skip (e := ofDay e) hstop.1 hstop.2 hfree, ofDay_r]
        obtain ⟨h1, h2, h3⟩ := IH rem
        refine ⟨h1, colsAt_succ.mpr ⟨?_, h2⟩, h3⟩
        rw [List.headD_cons, hc, claimedOn_row_below (Nat.lt_succ_self j)]
        exact (Rat.add_zero _).symm

theorem sameDayPart_eq (d : Day) (claimed : Rat) (s : Trade) (hB : 0 ≤ d.B) (hs : 0 ≤ s.q) (hc0 : 0 ≤ claimed)
    (hc1 : claimed + min d.B s.q ≤ d.B) :
    (sameDayPart d (d.B - claimed) s).1 = min d.B s.q ∧
    (sameDayPart d (d.B - claimed) s).2.map legView =
      (if min d.B s.q > 0 then [(Rule.sameDay, min d.B s.q, min d.B s.q * dayUnit d, some d.date)] else []) := by
  rcases sameDayPart_cases d (d.B - claimed) s with ⟨h, hwhy⟩ | ⟨b, hb, ha, hq, h⟩ <;> rw [h]
  · have hz : min d.B s.q = 0 := by
      rcases hwhy with hb | h | h
      · rw [Day.B_none hb]; grind
      · grind
      · grind
    rw [hz, if_neg (by decide)]
    exact ⟨rfl, rfl⟩
  · rw [show min s.q (d.B - claimed) = min d.B s.q by grind, if_pos (show min d.B s.q > 0 by grind)]
    unfold dayUnit
    rw [hb]
    exact ⟨rfl, rfl⟩

theorem poolPart_eq (d : Day) (pool : Option Pool) (rem : Rat) (s : Trade)
    (hdone : (poolPart d pool rem s).2.1 ≤ 0) :
    (poolQ' (poolPart d pool rem s).1, poolC' (poolPart d pool rem s).1) = poolTake (poolQ' pool) (poolC' pool) rem ∧
    (poolPart d pool rem s).2.2.map legView =
      (if rem > 0 then [(Rule.section104, rem, poolCost (poolQ' pool) (poolC' pool) rem, none)] else []) := by
  unfold poolTake poolCost
  rcases poolPart_cases d pool rem s with ⟨h, -⟩ | ⟨p, rfl, hr, hq, -, -, h⟩ <;> rw [h] at hdone ⊢ <;>
    dsimp only at hdone ⊢
  · have hr : ¬ rem > 0 := Rat.not_lt.mpr hdone
    rw [if_neg hr, if_neg hr, if_neg hr, rat_sub_zero, rat_sub_zero]
    exact ⟨rfl, rfl⟩
  · have hmr : min rem p.q = rem := by grind
    rw [hmr, if_pos hr, if_pos hr, if_pos hr]
    unfold poolQ' poolC'
    dsimp only
    rw [if_neg hq]
    exact ⟨rfl, rfl⟩

theorem dayOut_pool (tbl : List SDay) (mine : List Claim) (d : Day) (c : Rat) (pool : Option Pool) (st : MState)
    (hS : 0 ≤ d.S) (hc0 : 0 ≤ c) (hc1 : c + min d.B d.S ≤ d.B)
    (hav : st.avail = d.B - c - min d.B d.S)
    (hp : (poolQ' st.pool, poolC' st.pool) = poolTake (poolQ' pool) (poolC' pool) (fromPool (ofDay d) mine)) :
    (dayOut tbl mine c (poolQ' pool) (poolC' pool) (ofDay d)).2.1 = poolQ' (poolAfter d st) ∧
    (dayOut tbl mine c (poolQ' pool) (poolC' pool) (ofDay d)).2.2 = poolC' (poolAfter d st) := by
  have ha : 0 ≤ st.avail := by grind
  have hn : d.buy = none → st.avail = 0 := fun hb => by rw [Day.B_none hb] at hav hc1; grind
  rw [poolAfter_q d st ha hn, poolAfter_cost d st ha, show poolQ' st.pool = _ from congrArg Prod.fst hp,
    show poolC' st.pool = _ from congrArg Prod.snd hp, hav, ← unitCost_ofDay]
  unfold dayOut
  simp only [sameDay_ofDay, ofDay_B, ofDay_r]
  exact ⟨by grind, by grind⟩

theorem dayLegs_views (tbl : List SDay) (mine : List Claim) (pq pc : Rat) (d : SDay) :
    (dayLegs tbl mine pq pc d).map slegView =
      (if sameDay d > 0 then [(Rule.sameDay, sameDay d, sameDay d * Spec.unitCost d, some d.date)] else []) ++
      mine.map (fun c => (Rule.bedAndBreakfast, c.x, c.xk * Spec.unitCost (dayAt tbl c.j), some (dayAt tbl c.j).date)) ++
      (if fromPool d mine > 0 then [(Rule.section104, fromPool d mine, poolCost pq pc (fromPool d mine), none)] else []) := by
  unfold dayLegs
  rw [List.map_append, List.map_append, List.map_map, apply_ite (List.map slegView), apply_ite (List.map slegView)]
  rfl

/-- at most one SELL line (`hone`), because the matcher runs one look-ahead per SELL line where `Spec` fills one
    row per day: with two lines the legs agree only when added up per rule and acquisition date (known finding D17) -/
theorem sellsStep_row (t : String) (w : Int) (pool : Option Pool) (st : MState) (d : Day) (rest : List Day)
    (c : Rat) (cl cl1 : List Rat) (legs1 : List Leg) (tbl : List SDay) (i : Nat) (cs : List Claim)
    (hone : d.sells.length ≤ 1) (hok : daysOk (d :: rest)) (hc0 : 0 ≤ c) (hc1 : c + min d.B d.S ≤ d.B)
    (hcl : claimsOk rest cl) (hcols : ColsAt (claimedOn cs) (i + 1) rest.length cl)
    (hat : ∀ m e, rest[m]? = some e → dayAt tbl (i + 1 + m) = ofDay e)
    (h : sellsStep t w d rest { pool := pool, avail := d.B - c } d.sells cl = .ok (st, cl1, legs1)) :
    let mine := rowOf w i cs (ofDay d) (rest.map ofDay)
    st.avail = d.B - c - min d.B d.S ∧
    (poolQ' st.pool, poolC' st.pool) = poolTake (poolQ' pool) (poolC' pool) (fromPool (ofDay d) mine) ∧
    legs1.map legView = (dayLegs tbl mine (poolQ' pool) (poolC' pool) (ofDay d)).map slegView ∧
    ColsAt (claimedOn (cs ++ mine)) (i + 1) rest.length cl1 := by
  obtain ⟨hdok, hokrest⟩ := hok
  have hB := hdok.2.2
  cases hs : d.sells with
  | nil =>
    rw [hs] at h
    cases h
    have hS0 : d.S = 0 := by rw [Day.S, hs]; rfl
    have hnp : ¬ (ofDay d).S > 0 := by rw [ofDay_S, hS0]; decide
    have hsd : sameDay (ofDay d) = 0 := by rw [sameDay_ofDay, hS0]; grind
    have hfp : ¬ fromPool (ofDay d) [] > 0 := by
      rw [fromPool_ofDay, ← sameDay_ofDay, hsd, hS0, List.map_nil, rsum_nil]; grind
    dsimp only
    rw [rowOf_of_not_pos hnp, poolTake, if_neg hfp, if_neg hfp, List.append_nil, hS0, dayLegs_views, hsd, if_neg hfp,
      rat_sub_zero, rat_sub_zero]
    exact ⟨by grind, rfl, rfl, hcols⟩
  | cons s ss =>
    obtain rfl : ss = [] := by
      rw [hs] at hone; exact List.eq_nil_of_length_eq_zero (Nat.le_zero.mp (Nat.le_of_succ_le_succ hone))
    have hsq : 0 ≤ s.q := hdok.2.1 s (by rw [hs]; exact List.mem_cons_self ..)
    have hSq : d.S = s.q := by rw [Day.S, hs]; exact rsum_one _
    rw [hs] at h
    obtain ⟨st1, cla, l1, l2, hsell, hnil, rfl⟩ := sellsStep_cons_ok h
    cases hnil
    obtain ⟨sd, la, p3, rfl, rfl, rfl, -, hdone, rfl, rfl, rfl⟩ := sellStep_ok hsell
    rw [hSq] at hc1 ⊢
    obtain ⟨hsd1, hsdv⟩ := sameDayPart_eq d c s hB hsq hc0 hc1
    have hla := lookahead_row w i d.date s cs (fun n => (dayAt tbl n).date) (fun n => Spec.unitCost (dayAt tbl n))
      rest (i + 1) (s.q - (sameDayPart d (d.B - c) s).1) d.r cl
      (fun e he => (daysOk_iff_forall.mp hokrest e he).S_nonneg) hcols (claimsOk_nonneg rest cl hcl)
      (fun m e he => by rw [hat m e he, unitCost_ofDay]; exact ⟨rfl, rfl⟩)
    have hrow : rowOf w i cs (ofDay d) (rest.map ofDay)
        = row w i d.date cs (i + 1) (s.q - min d.B s.q) d.r (rest.map ofDay) :=
      hSq ▸ rowOf_eq_row w i cs (d := ofDay d) _ hB
    dsimp only at hla hdone ⊢
    rw [hsd1] at hla hdone ⊢
    rw [hrow]
    -- so that the rewrites below do not travel through the look-ahead and the row
    generalize lookahead w d.date s (s.q - min d.B s.q) d.r rest cl = la at hla hdone ⊢
    generalize row w i d.date cs (i + 1) (s.q - min d.B s.q) d.r (rest.map ofDay) = mine at hla ⊢
    obtain ⟨hrem, hcl', hbv⟩ := hla
    have hfp : fromPool (ofDay d) mine = la.2.2 := by rw [fromPool_ofDay, hSq, hrem]
    obtain ⟨hp, hpv⟩ := poolPart_eq d pool la.2.2 s hdone
    rw [hfp]
    refine ⟨rfl, hp, ?_, fun m hm => by rw [hcl' m hm, claimedOn_append]⟩
    rw [List.append_nil, List.map_append, List.map_append, hsdv, hbv, hpv, dayLegs_views, hfp, unitCost_ofDay,
      sameDay_ofDay, hSq, ofDay_date]

theorem dayStep_walk (t : String) (w : Int) (pool pool1 : Option Pool) (d : Day) (rest : List Day)
    (cl cl1 : List Rat) (legs1 : List Leg) (tbl : List SDay) (i : Nat) (cs : List Claim)
    (hone : d.sells.length ≤ 1) (inv : RunInv (d :: rest) pool cl)
    (hcols : ColsAt (claimedOn cs) i (rest.length + 1) cl)
    (hat : ∀ m e, rest[m]? = some e → dayAt tbl (i + 1 + m) = ofDay e)
    (h : dayStep t w pool d (cl.headD 0) rest cl.tail = .ok (pool1, cl1, legs1)) :
    let mine := rowOf w i cs (ofDay d) (rest.map ofDay)
    let out := dayOut tbl mine (claimedOn cs i) (poolQ' pool) (poolC' pool) (ofDay d)
    out.2.1 = poolQ' pool1 ∧ out.2.2 = poolC' pool1 ∧
    legs1.map legView = out.1.flatMap (fun dsp => dsp.legs.map slegView) ∧
    ColsAt (claimedOn (cs ++ mine)) (i + 1) rest.length cl1 := by
  have di := inv.dayInv
  obtain ⟨-, st, hsells, rfl⟩ := di.step_ok h
  obtain ⟨hci, hcols'⟩ := colsAt_succ.mp hcols
  have hS := di.day.S_nonneg
  have hB := di.day.B_nonneg
  have hc0 := di.claimed_nonneg
  have hc1 := di.claimed_fits
  rw [show max d.S 0 = d.S by grind] at hc1
  obtain ⟨hav, hp, hl, hcl⟩ := sellsStep_row t w pool st d rest _ _ cl1 legs1 tbl i cs hone inv.days hc0 hc1 di.claims
    hcols' hat hsells
  obtain ⟨o1, o2⟩ := dayOut_pool tbl _ d _ pool st hS hc0 hc1 hav hp
  rw [← hci]
  exact ⟨o1, o2, (dayOut_legs tbl (d := ofDay d) _ _ _ slegView hB (fun h => rowOf_of_not_pos h ..)).symm ▸ hl, hcl⟩

theorem dayAt_map (pre ds : List Day) (m : Nat) (e : Day) (h : ds[m]? = some e) :
    dayAt ((pre ++ ds).map ofDay) (pre.length + m) = ofDay e := by
  unfold dayAt
  rw [List.getD_eq_getElem?_getD, List.getElem?_map, List.getElem?_append_right (Nat.le_add_right ..),
    Nat.add_sub_cancel_left, h]
  rfl

/-- in front of the days `ds`, which are the days of the table `tbl` from index `i` on, the matcher carries the
    column sums (`ColsAt`) of the rows `cs` that pass 2 has filled for the days before -/
theorem runDays_walk (t : String) (w : Int) (tbl : List SDay) :
    ∀ (ds : List Day) (i : Nat) (pool pool' : Option Pool) (cl : List Rat) (cs : List Claim) (legs : List Leg),
      (∀ d ∈ ds, d.sells.length ≤ 1) → RunInv ds pool cl →
      ColsAt (claimedOn cs) i ds.length cl → (∀ c ∈ cs, c.i < i) →
      (∀ m e, ds[m]? = some e → dayAt tbl (i + m) = ofDay e) →
      runDays t w pool ds cl = .ok (pool', legs) →
      let wk := walk tbl (claims w i cs (ds.map ofDay)) i (poolQ' pool) (poolC' pool) (ds.map ofDay)
      wk.2.1 = poolQ' pool' ∧ wk.2.2 = poolC' pool' ∧
      legs.map legView = wk.1.flatMap (fun dsp => dsp.legs.map slegView) := by
  intro ds
  induction ds with
  | nil =>
    intro i pool pool' cl cs legs _ _ _ _ _ h
    cases h
    exact ⟨rfl, rfl, rfl⟩
  | cons d rest ih =>
    intro i pool pool' cl cs legs hone inv hcols hcs hat hrun
    obtain ⟨pool1, cl1, legs1, legs2, h1, h2, rfl⟩ := runDays_cons_ok hrun
    have hat' : ∀ m e, rest[m]? = some e → dayAt tbl (i + 1 + m) = ofDay e := fun m e he => by
      rw [Nat.add_assoc, Nat.add_comm 1 m]; exact hat (m + 1) e he
    obtain ⟨o1, o2, o3, o4⟩ := dayStep_walk t w pool pool1 d rest cl cl1 legs1 tbl i cs
      (hone d (List.mem_cons_self ..)) inv hcols hat' h1
    obtain ⟨hmine, hclaimed⟩ := claims_split w i cs (ofDay d) (rest.map ofDay) hcs
    obtain ⟨i1, i2, i3⟩ := ih (i + 1) pool1 pool' cl1 (cs ++ rowOf w i cs (ofDay d) (rest.map ofDay)) legs2
      (fun e he => hone e (List.mem_cons_of_mem _ he)) (inv.step h1) o4
      (fun c hc => by
        rcases List.mem_append.mp hc with hc | hc
        · exact Nat.lt_succ_of_lt (hcs c hc)
        · rw [(rowOf_fields w i cs (ofDay d) (rest.map ofDay) c hc).1]; exact Nat.lt_succ_self _) hat' h2
    dsimp only at i1 i2 i3 o1 o2 o3 ⊢
    rw [List.map_cons, walk_cons, hmine, hclaimed, claims_cons]
    dsimp only
    rw [o1, o2]
    exact ⟨i1, i2, by rw [List.map_append, o3, i3, List.flatMap_append]⟩

set_option linter.unusedVariables false in
/-- `runDays_walk` with the days' own table, for a day list in date order, as every security's is; the
    order plays no part -/
theorem run_walk (t : String) (w : Int) (all : List Day) (hall : all.Pairwise (fun a b => a.ord < b.ord))
    (hone : ∀ d ∈ all, d.sells.length ≤ 1) :
    ∀ (ds pre : List Day) (pool pool' : Option Pool) (cl : List Rat) (cs : List Claim) (legs : List Leg),
      all = pre ++ ds → daysOk ds → 0 ≤ poolQ' pool → claimsOk ds cl →
      (∀ m, m < ds.length → cl.getD m 0 = claimedOn cs (pre.length + m)) →
      (∀ c ∈ cs, c.i < pre.length) →
      runDays t w pool ds cl = .ok (pool', legs) →
      let csf := claims w pre.length cs (ds.map ofDay)
      let wk := walk (all.map ofDay) csf pre.length (poolQ' pool) (poolC' pool) (ds.map ofDay)
      wk.2.1 = poolQ' pool' ∧ wk.2.2 = poolC' pool' ∧
      legs.map legView = wk.1.flatMap (fun dsp => dsp.legs.map slegView) :=
  fun ds pre pool pool' cl cs legs hsplit hok hp hc hcols hcs hrun =>
    runDays_walk t w (all.map ofDay) ds pre.length pool pool' cl cs legs
      (fun d hd => hone d (hsplit ▸ List.mem_append_right _ hd)) ⟨hok, hp, hc⟩ hcols hcs
      (fun m e he => hsplit ▸ dayAt_map pre ds m e he) hrun

theorem runDays_eq_spec (t : String) (w : Int) (ds : List Day)
    (hok : daysOk ds) (hone : ∀ d ∈ ds, d.sells.length ≤ 1)
    (pool : Option Pool) (legs : List Leg) (h : runDays t w none ds [] = .ok (pool, legs)) :
    let sp := identifyTbl w (ds.map ofDay)
    sp.2.1 = poolQ' pool ∧ sp.2.2 = poolC' pool ∧
    legs.map legView = sp.1.flatMap (fun dsp => dsp.legs.map slegView) :=
  runDays_walk t w (ds.map ofDay) ds 0 none pool [] [] legs hone (.start hok)
    (fun _ _ => rfl) (fun _ hc => nomatch hc) (fun m e he => dayAt_map [] ds m e he) h

theorem runTicker_eq_spec_offsets (t : String) (w : Int) (ds : List Day)
    (hok : daysOk ds) (hone : ∀ d ∈ ds, d.sells.length ≤ 1)
    (pool : Option Pool) (legs : List Leg) (h : runTicker t w ds = .ok (pool, legs)) :
    ∃ lots, prepass t [] ds = .ok lots ∧
      (let sp := identifyTbl w ((ds.map (fun d => { d with offset := offsetFor d.ord lots })).map ofDay)
       sp.2.1 = poolQ' pool ∧ sp.2.2 = poolC' pool ∧
       legs.map legView = sp.1.flatMap (fun dsp => dsp.legs.map slegView)) := by
  obtain ⟨lots, hp, hrun⟩ := runTicker_ok h
  refine ⟨lots, hp, runDays_eq_spec t w _ (daysOk_setOffsets _ ds hok) (fun d hd => ?_) pool legs hrun⟩
  obtain ⟨d0, hd0, rfl⟩ := List.mem_map.mp hd
  exact hone d0 hd0

/-- `h0`: days as `groupDays` builds them carry no offset yet -/
theorem runTicker_eq_spec (t : String) (w : Int) (ds : List Day)
    (hok : daysOk ds) (hne : noEvents ds) (hone : ∀ d ∈ ds, d.sells.length ≤ 1) (h0 : ∀ d ∈ ds, d.offset = 0)
    (pool : Option Pool) (legs : List Leg) (h : runTicker t w ds = .ok (pool, legs)) :
    let sp := identifyTbl w (ds.map ofDay)
    sp.2.1 = poolQ' pool ∧ sp.2.2 = poolC' pool ∧
    legs.map legView = sp.1.flatMap (fun dsp => dsp.legs.map slegView) := by
  rw [runTicker_eq w (withOffsets_noEvents t ds hok hne h0)] at h
  exact runDays_eq_spec t w ds hok hone pool legs h

end Cgt
