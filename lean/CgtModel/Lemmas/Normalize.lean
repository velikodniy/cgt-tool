import CgtModel.Normalize
/-! Both merging passes replace two fills of one day, security and kind by one line (`Op.fuse?`) that keeps
    the earlier line's date and security. What is proved about `preprocess` goes through that: each pass lets
    the lines arrive one after the other, and a line is put at the end or fused into an earlier one (`Absorb`,
    `Pass`); so a predicate that survives fusing survives preprocessing (`preprocess_forall`), and under a key
    that fusing keeps the preprocessed list is a sublist of the sorted one (`preprocess_map_sublist`). -/
namespace Cgt

theorem sortByDate_perm (l : List Tx) : (sortByDate l).Perm l := List.mergeSort_perm l _

theorem mem_sortByDate {x : Tx} {l : List Tx} : x ∈ sortByDate l ↔ x ∈ l := (sortByDate_perm l).mem_iff

theorem ordLe_trans (a b c : Tx) (h1 : decide (a.ord ≤ b.ord) = true) (h2 : decide (b.ord ≤ c.ord) = true) :
    decide (a.ord ≤ c.ord) = true :=
  decide_eq_true (Int.le_trans (of_decide_eq_true h1) (of_decide_eq_true h2))

theorem ordLe_total (a b : Tx) : (decide (a.ord ≤ b.ord) || decide (b.ord ≤ a.ord)) = true := by
  simpa using Int.le_total a.ord b.ord

theorem sortByDate_sorted (l : List Tx) : (sortByDate l).Pairwise (fun a b => a.ord ≤ b.ord) :=
  (List.pairwise_mergeSort ordLe_trans ordLe_total l).imp of_decide_eq_true

def Op.fuse? : Op → Op → Option Op
  | .buy q p f, .buy q' p' f' =>
    let m := mergeTrade q p f q' p' f'
    some (.buy m.1 m.2.1 m.2.2)
  | .sell q p f, .sell q' p' f' =>
    let m := mergeTrade q p f q' p' f'
    some (.sell m.1 m.2.1 m.2.2)
  | _, _ => none

theorem mergeTrade_value (q p f q' p' f' : Rat) (h : q + q' ≠ 0) :
    let m := mergeTrade q p f q' p' f'
    m.1 = q + q' ∧ m.1 * m.2.1 = q * p + q' * p' ∧ m.2.2 = f + f' := by
  unfold mergeTrade
  simp only [h, ne_eq, not_false_eq_true, if_true]
  exact ⟨trivial, by grind, trivial⟩

theorem mergeInto_cons (cur nxt : Tx) (rest : List Tx) :
    mergeInto cur (nxt :: rest) =
      match (if nxt.date = cur.date ∧ nxt.ticker = cur.ticker then cur.op.fuse? nxt.op else none) with
      | some o => mergeInto { cur with op := o } rest
      | none => cur :: mergeInto nxt rest := by
  simp only [mergeInto]
  split
  · unfold Op.fuse?
    split <;> simp_all
  · rfl

theorem foldBuy_eq_some {n : Tx} {q p f : Rat} (hn : n.op = .buy q p f) : ∀ {out o : List Tx},
    foldBuy n.date n.ticker q p f out = some o →
    ∃ pre x post o', out = pre ++ x :: post ∧ n.date = x.date ∧ n.ticker = x.ticker ∧
      x.op.fuse? n.op = some o' ∧ o = pre ++ { x with op := o' } :: post := by
  intro out
  induction out with
  | nil => intro o h; simp [foldBuy] at h
  | cons t ts ih =>
    intro o h
    have hrec : ∀ r, foldBuy n.date n.ticker q p f ts = some r → ∃ pre x post o', t :: ts = pre ++ x :: post ∧
        n.date = x.date ∧ n.ticker = x.ticker ∧ x.op.fuse? n.op = some o' ∧
        t :: r = pre ++ { x with op := o' } :: post := fun r hr => by
      obtain ⟨pre, x, post, o', rfl, h1, h2, h3, rfl⟩ := ih hr
      exact ⟨t :: pre, x, post, o', rfl, h1, h2, h3, rfl⟩
    simp only [foldBuy] at h
    split at h
    · rename_i hsame
      split at h
      · rename_i hop
        cases h
        exact ⟨[], t, ts, _, rfl, hsame.1.symm, hsame.2.symm, by rw [hop, hn]; rfl, rfl⟩
      · obtain ⟨r, hr, rfl⟩ := Option.map_eq_some_iff.mp h
        exact hrec r hr
    · obtain ⟨r, hr, rfl⟩ := Option.map_eq_some_iff.mp h
      exact hrec r hr

/-- `Absorb n out out'`: the line `n` arrives at what is out so far, `out`, and leaves `out'` -/
inductive Absorb (n : Tx) : List Tx → List Tx → Prop
  | snoc (out : List Tx) : Absorb n out (out ++ [n])
  | fuse (pre : List Tx) (x : Tx) (post : List Tx) (o : Op) : n.date = x.date → n.ticker = x.ticker →
      x.op.fuse? n.op = some o → Absorb n (pre ++ x :: post) (pre ++ { x with op := o } :: post)

/-- `Pass acc l out`: with `acc` out so far and the lines `l` still to come, the final output is `out` -/
inductive Pass : List Tx → List Tx → List Tx → Prop
  | done (acc : List Tx) : Pass acc [] acc
  | step {acc acc' out l : List Tx} {n : Tx} : Absorb n acc acc' → Pass acc' l out → Pass acc (n :: l) out

/-- `mergeInto`'s `cur` is the last element of the accumulator, the only one a coming line can fuse into -/
theorem mergeInto_pass : ∀ (rest out : List Tx) (cur : Tx), Pass (out ++ [cur]) rest (out ++ mergeInto cur rest)
  | [], out, cur => .done _
  | nxt :: rest, out, cur => by
    rw [mergeInto_cons]
    split
    · rename_i o ho
      split at ho
      · rename_i hsame
        exact .step (.fuse out cur [] o hsame.1 hsame.2 ho) (mergeInto_pass rest out _)
      · cases ho
    · rw [List.append_cons out cur (mergeInto nxt rest)]
      exact .step (.snoc _) (mergeInto_pass rest _ nxt)

theorem mergeAdjacent_pass : ∀ l : List Tx, Pass [] l (mergeAdjacent l)
  | [] => .done _
  | t :: ts => .step (.snoc []) (mergeInto_pass ts [] t)

theorem coalesceStep_absorb (out : List Tx) (n : Tx) : Absorb n out (coalesceStep out n) := by
  unfold coalesceStep
  split
  · rename_i hop
    split
    · rename_i o ho
      obtain ⟨pre, x, post, o', rfl, h1, h2, h3, rfl⟩ := foldBuy_eq_some hop ho
      exact .fuse pre x post o' h1 h2 h3
    · exact .snoc out
  · exact .snoc out

theorem coalesceFold_pass : ∀ l acc : List Tx, Pass acc l (l.foldl coalesceStep acc)
  | [], acc => .done acc
  | n :: l, acc => .step (coalesceStep_absorb acc n) (coalesceFold_pass l _)

theorem coalesceBuys_pass (l : List Tx) : Pass [] l (coalesceBuys l) := coalesceFold_pass l []

section Forall
variable {P : Tx → Prop}
  (hP : ∀ (c n : Tx) (o : Op), c.op.fuse? n.op = some o → P c → P n → P { c with op := o })
include hP

theorem Absorb.forall {n : Tx} {out out' : List Tx} (h : Absorb n out out') (ho : ∀ x ∈ out, P x) (hn : P n) :
    ∀ y ∈ out', P y := by
  cases h with
  | snoc => exact List.forall_mem_append.mpr ⟨ho, List.forall_mem_singleton.mpr hn⟩
  | fuse pre x post o _ _ hf =>
    have ⟨hpre, hx⟩ := List.forall_mem_append.mp ho
    have ⟨hx, hpost⟩ := List.forall_mem_cons.mp hx
    exact List.forall_mem_append.mpr ⟨hpre, List.forall_mem_cons.mpr ⟨hP x n o hf hx hn, hpost⟩⟩

theorem Pass.forall {acc l out : List Tx} (h : Pass acc l out) (ha : ∀ x ∈ acc, P x) (hl : ∀ x ∈ l, P x) :
    ∀ y ∈ out, P y := by
  induction h with
  | done => exact ha
  | step hab _ ih =>
    have ⟨hn, hl⟩ := List.forall_mem_cons.mp hl
    exact ih (hab.forall hP ha hn) hl

theorem mergeAdjacent_forall {l : List Tx} (h : ∀ x ∈ l, P x) : ∀ y ∈ mergeAdjacent l, P y :=
  (mergeAdjacent_pass l).forall hP (fun _ hx => nomatch hx) h

theorem coalesceBuys_forall {l : List Tx} (h : ∀ x ∈ l, P x) : ∀ y ∈ coalesceBuys l, P y :=
  (coalesceBuys_pass l).forall hP (fun _ hx => nomatch hx) h

theorem preprocess_forall {l : List Tx} (h : ∀ x ∈ l, P x) : ∀ y ∈ preprocess l, P y :=
  coalesceBuys_forall hP (mergeAdjacent_forall hP fun x hx => h x (mem_sortByDate.mp hx))

end Forall

theorem mergeAdjacent_key_mem {l : List Tx} :
    ∀ y ∈ mergeAdjacent l, ∃ x ∈ l, y.date = x.date ∧ y.ticker = x.ticker :=
  mergeAdjacent_forall (P := fun y => ∃ x ∈ l, y.date = x.date ∧ y.ticker = x.ticker) (fun _ _ _ _ hc _ => hc)
    fun x hx => ⟨x, hx, rfl, rfl⟩

theorem preprocess_key_mem {l : List Tx} :
    ∀ y ∈ preprocess l, ∃ x ∈ l, y.date = x.date ∧ y.ticker = x.ticker :=
  preprocess_forall (P := fun y => ∃ x ∈ l, y.date = x.date ∧ y.ticker = x.ticker) (fun _ _ _ _ hc _ => hc)
    fun x hx => ⟨x, hx, rfl, rfl⟩

section Sublist
variable {β : Type} {k : Tx → β}
  (hk : ∀ (c : Tx) (o' o : Op), c.op.fuse? o' = some o → k { c with op := o } = k c)
include hk

theorem Pass.map_sublist {acc l out : List Tx} (h : Pass acc l out) : (out.map k).Sublist (acc.map k ++ l.map k) := by
  induction h with
  | done => simp
  | @step acc acc' out l n hab _ ih =>
    refine ih.trans ?_
    rw [List.map_cons, List.append_cons]
    refine List.Sublist.append_right ?_ _
    cases hab with
    | snoc => simp
    | fuse pre x post o _ _ hf =>
      simp only [List.map_append, List.map_cons, hk x _ o hf]
      exact List.sublist_append_left _ _

theorem preprocess_map_sublist (l : List Tx) : ((preprocess l).map k).Sublist ((sortByDate l).map k) :=
  ((coalesceBuys_pass _).map_sublist hk).trans ((mergeAdjacent_pass _).map_sublist hk)

end Sublist

theorem preprocess_sorted (l : List Tx) : (preprocess l).Pairwise (fun a b => a.ord ≤ b.ord) :=
  List.pairwise_map.mp ((List.pairwise_map.mpr (sortByDate_sorted l)).sublist
    (preprocess_map_sublist (k := Tx.ord) (fun _ _ _ _ => rfl) l))

end Cgt
