import CgtModel.Lemmas.SpecPerm
import CgtModel.Lemmas.SpecEquiv
import CgtModel.Lemmas.WellFormed
/-! `Spec`'s day table, built by insertion from the raw lines, is the matcher's day list seen through
    `ofDay`: the date sort, the merging of fills and the grouping into days only rearrange and
    aggregate what insertion aggregates anyway. -/
namespace Cgt
open Spec

theorem absorb_fuse {a b o : Op} (h : a.fuse? b = some o) (ha : opOk a) (hb : opOk b) (d : SDay) :
    (d.absorb a).absorb b = d.absorb o := by
  cases a <;> cases b <;> cases h <;> rename_i q p f q' p' f'
  all_goals have hv := mergeTrade_value q p f q' p' f' (by have := ha.1; have := hb.1; grind)
  · exact absorb_fills_buy d hv.1.symm hv.2.1.symm hv.2.2.symm
  · exact absorb_fills_sell d hv.1.symm hv.2.1.symm hv.2.2.symm

/-- a line fused into an earlier one of its day is absorbed there as it would have been at its own place -/
theorem Pass.insFold_eq (t : String) (A : List SDay) {acc l out : List Tx} (h : Pass acc l out)
    (hw : WellFormed (acc ++ l)) (hd : DatesOk (acc ++ l)) : insFold t A out = insFold t A (acc ++ l) := by
  induction h with
  | done => rw [List.append_nil]
  | @step acc acc' out l n hab _ ih =>
    rw [List.append_cons] at hw hd ⊢
    have ⟨hw1, hwl⟩ := List.forall_mem_append.mp hw
    have ⟨hd1, hdl⟩ := List.forall_mem_append.mp hd
    have ⟨hwa, hwn⟩ := List.forall_mem_append.mp hw1
    have ⟨hda, hdn⟩ := List.forall_mem_append.mp hd1
    have hn := List.forall_mem_singleton.mp hwn
    rw [ih (List.forall_mem_append.mpr ⟨hab.forall (fun _ _ _ => opOk_fuse) hwa hn, hwl⟩)
        (List.forall_mem_append.mpr ⟨hab.forall (P := fun x => x.date.ok) (fun _ _ _ _ hc _ => hc) hda
          (hdn n (List.mem_singleton_self n)), hdl⟩),
      insFold_append, insFold_append t A (acc ++ [n])]
    refine congrArg (insFold t · l) ?_
    cases hab with
    | snoc => rfl
    | fuse pre x post o hdate hticker hf =>
      have hperm : (pre ++ x :: post ++ [n]).Perm (pre ++ x :: n :: post) := by
        rw [List.append_assoc]
        exact (List.perm_append_comm.cons x).append_left pre
      have hx : TxOk x := hwa x (List.mem_append_right _ (List.mem_cons_self ..))
      rw [insFold_perm t A _ _ hperm hd1, insFold_append, insFold_append]
      exact insFold_merged t _ x n o hdate hticker (absorb_fuse hf hx hn) post

theorem table_preprocess (t : String) (l : List Tx) (hw : WellFormed l) (hd : DatesOk l) :
    table t (preprocess l) = table t l := by
  have hws : WellFormed (sortByDate l) := fun x hx => hw x (mem_sortByDate.mp hx)
  have hds : DatesOk (sortByDate l) := fun x hx => hd x (mem_sortByDate.mp hx)
  rw [table_perm t l _ (sortByDate_perm l).symm hd]
  exact ((coalesceBuys_pass _).insFold_eq t [] (mergeAdjacent_forall (fun _ _ _ => opOk_fuse) hws)
    (mergeAdjacent_forall (P := fun x => x.date.ok) (fun _ _ _ _ hc _ => hc) hds)).trans
    ((mergeAdjacent_pass _).insFold_eq t [] hws hds)

theorem ofDay_ofLine (i : Nat) (t : Tx) : ofDay (Day.ofLine i t) = ({ date := t.date } : SDay).absorb t.op := by
  unfold Day.ofLine
  cases t.op <;>
    simp [Day.add, ofDay, SDay.absorb, Day.B, Day.S, splitFactor, Spec.factor, rsum, Rat.zero_add, Rat.one_mul,
      Rat.add_zero]

theorem ofDay_merge (a b : Day) (ha : a.offset = 0) (hb : b.offset = 0)
    (hqa : ∀ x, a.buy = some x → 0 < x.q) (hqb : ∀ y, b.buy = some y → 0 < y.q) :
    ofDay (a.merge b) = (ofDay a).plus (ofDay b) := by
  have hB : (ofDay (a.merge b)).B = a.B + b.B ∧ (ofDay (a.merge b)).Bcost = (ofDay a).Bcost + (ofDay b).Bcost := by
    cases hx : a.buy with
    | none => cases hy : b.buy <;> simp [ofDay, Day.merge, Day.B, hx, hy, Rat.zero_add, hb]
    | some x =>
      cases hy : b.buy with
      | none => simp [ofDay, Day.merge, Day.B, hx, hy, Rat.add_zero, ha]
      | some y =>
        have hv := mergeTrade_value x.q x.p x.f y.q y.p y.f (by have := hqa x hx; have := hqb y hy; grind)
        simp only [ofDay, Day.merge, Day.B, hx, hy, ha, hb, hv.1, hv.2.2]
        exact ⟨trivial, by grind⟩
  apply SDay.ext'
  · rfl
  · exact hB.1
  · exact hB.2
  · simp only [ofDay, Day.merge, Day.S, SDay.plus, List.map_append, rsum_append]
  · simp only [ofDay, Day.merge, SDay.plus, List.map_append, rsum_append]
  · simp only [ofDay, Day.merge, SDay.plus, List.map_append, rsum_append]
  · rfl

theorem ofDay_merge_ofLine (d : Day) (i : Nat) (t : Tx) (hdate : t.date = d.date) (ht : TxOk t) (hd : d.pos)
    (h0 : d.offset = 0) : ofDay ((Day.ofLine i t).merge d) = (ofDay d).absorb t.op := by
  rw [ofDay_merge _ d (Day.add_offset ..) h0 (Day.ofLine_pos i t ht).2.2 hd.2.2, ofDay_ofLine, absorb_eq_plus,
    absorb_eq_plus, hdate]
  exact SDay.fresh_plus_plus (ofDay d) (delta t.op)

theorem foldr_insert_groupDays : ∀ (xs : List (Nat × Tx)),
    xs.Pairwise (fun a b => a.2.ord ≤ b.2.ord) → (∀ x ∈ xs, TxOk x.2) → (∀ x ∈ xs, x.2.date.ok) →
    xs.foldr (fun it a => Spec.insert it.2 a) [] = (groupDays xs).map ofDay
  | [], _, _, _ => rfl
  | (i, t) :: xs, hs, hok, hd => by
    have ⟨hs1, hs2⟩ := List.pairwise_cons.mp hs
    have ⟨htok, hoks⟩ := List.forall_mem_cons.mp hok
    have ⟨htd, hds⟩ := List.forall_mem_cons.mp hd
    rw [List.foldr_cons, foldr_insert_groupDays xs hs2 hoks hds, groupDays_cons]
    cases hg : groupDays xs with
    | nil => exact congrArg (· :: []) (ofDay_ofLine i t).symm
    | cons d ds =>
      have hdmem : d ∈ groupDays xs := hg ▸ List.mem_cons_self ..
      obtain ⟨z, hz, hzd⟩ := groupDays_date_mem xs d hdmem
      have hle : t.date.ord ≤ d.date.ord := by rw [hzd]; exact hs1 z hz
      rw [List.map_cons]
      dsimp only
      split
      · rename_i heq
        have hdd : t.date = d.date := ord_inj _ _ htd (hzd ▸ hds z hz) heq.symm
        rw [insert_eq (show t.date.ord = (ofDay d).date.ord from heq.symm), List.map_cons,
          ofDay_merge_ofLine d i t hdd htok (groupDays_pos xs hoks d hdmem) (groupDays_offset xs d hdmem)]
      · rename_i hne
        rw [insert_lt (show t.date.ord < (ofDay d).date.ord from Int.lt_iff_le_and_ne.mpr ⟨hle, Ne.symm hne⟩),
          List.map_cons, List.map_cons, ofDay_ofLine]

theorem preprocess_dates (l : List Tx) (h : DatesOk l) : DatesOk (preprocess l) :=
  preprocess_forall (P := fun x => x.date.ok) (fun _ _ _ _ hc _ => hc) h

theorem table_eq_days (t : String) (l : List Tx) (hw : WellFormed l) (hd : DatesOk l) :
    table t l = (daysOf t (preprocess l)).map ofDay := by
  have hdp := preprocess_dates l hd
  have hwp := preprocess_ok l hw
  -- insertion from the last line to the first
  rw [← table_preprocess t l hw hd]
  rw [table_eq_insFold, insFold_perm t [] (preprocess l) (preprocess l).reverse (List.reverse_perm _).symm hdp]
  unfold insFold daysOf
  rw [List.filter_reverse, List.foldl_reverse, ← lines_map_snd, List.foldr_map]
  exact foldr_insert_groupDays _ (lines_pairwise t (preprocess_sorted l))
    (fun x hx => hwp x.2 (snd_mem_of_mem_indexed (List.mem_filter.mp hx).1))
    (fun x hx => hdp x.2 (snd_mem_of_mem_indexed (List.mem_filter.mp hx).1))

end Cgt
