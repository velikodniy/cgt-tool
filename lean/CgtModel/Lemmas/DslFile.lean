import CgtModel.Lemmas.DslLayout
/-! A transaction line in an arbitrary layout whose trailing comment holds no line break is made of in-line
    characters (neither LF nor CR), so it is one line of the file however it is terminated. -/
namespace Cgt.Dsl

def lineChars (l : List Char) : Prop := ∀ c ∈ l, c ≠ '\n' ∧ c ≠ '\r'
instance (l : List Char) : Decidable (lineChars l) := inferInstanceAs (Decidable (∀ c ∈ l, c ≠ '\n' ∧ c ≠ '\r'))

theorem lineChars_nil : lineChars [] := by intro c h; cases h

theorem lineChars_append (a b : List Char) : lineChars (a ++ b) ↔ lineChars a ∧ lineChars b :=
  List.forall_mem_append

theorem lineChars_cons (c : Char) (a : List Char) : lineChars (c :: a) ↔ (c ≠ '\n' ∧ c ≠ '\r') ∧ lineChars a :=
  List.forall_mem_cons

theorem lineChars_ws (w : List Char) (h : wsRun0 w) : lineChars w := fun c hc => by
  have := h c hc
  simp only [isWs, Bool.or_eq_true, decide_eq_true_eq] at this
  rcases this with rfl | rfl <;> decide

theorem Word.lineChars {s : List Char} (h : Word s) : lineChars s :=
  fun c hc => (not_sep_iff.1 (h.2 c hc)).2

theorem lineChars_layAmt (g : List Char) (hg : wsRun g) (a : DAmt) (h : amtOk a) : lineChars (layAmt g a) := by
  obtain ⟨hd, x, y, z, hcur, hc⟩ := h
  unfold layAmt
  rw [hcur, String.toList_ofList, lineChars_append, lineChars_append]
  exact ⟨⟨(word_showDec _ hd).lineChars, lineChars_ws _ hg.run0⟩, (word_cur hc).lineChars⟩

theorem lineChars_layOpt (L : Layout) (hL : L.ok) (i : Nat) (kw : List Char) (hk : lineChars (L.kw kw)) (a : DAmt) (h : amtOk a) :
    lineChars (layOpt L i kw a) := by
  unfold layOpt
  split
  · exact lineChars_nil
  · simp only [lineChars_append]
    exact ⟨lineChars_ws _ (hL.gap i).run0, hk, lineChars_ws _ (hL.gap _).run0, lineChars_layAmt _ (hL.gap _) a h⟩

theorem lineChars_layCmd (L : Layout) (hL : L.ok) (t : DTx) (htk : tickerOk t.ticker.toList) (hop : opOk t.op) :
    lineChars (layCmd L t) := by
  have hg : ∀ i, lineChars (L.g i) := fun i => lineChars_ws _ (hL.gap i).run0
  obtain ⟨kBUY, kSELL, kDIV, kACC, kCAP, kSPL, kUNS, kTOT, kFEES, kTAX, kRAT⟩ :=
    forall_kwAll (P := fun k => lineChars (L.kw k)) (fun k hk => (hL.spells k hk).2.lineChars)
  have htk' := (word_ticker _ htk).lineChars
  have hat : lineChars ['@'] := by decide
  have dec : ∀ d, canon d → lineChars (showDec d) := fun d h => (word_showDec d h).lineChars
  have amt : ∀ i a, amtOk a → lineChars (layAmt (L.g i) a) := fun i a h => lineChars_layAmt (L.g i) (hL.gap i) a h
  have opt := lineChars_layOpt L hL
  unfold layCmd
  cases hopc : t.op <;> rw [hopc] at hop <;> simp only [opOk] at hop <;>
    simp only [lineChars_append, hg, kBUY, kSELL, kDIV, kACC, kCAP, kSPL, kUNS, kTOT, kFEES, kTAX, kRAT, htk', hat,
      dec, amt, opt, hop, and_self]

theorem lineChars_render (L : Layout) (hL : L.ok) (hpost : lineChars L.post) (t : DTx) (h : txOk t) :
    lineChars (render L t) := by
  unfold render
  simp only [lineChars_append]
  exact ⟨lineChars_ws _ hL.1, (word_date t).lineChars, lineChars_ws _ (hL.gap 0).run0,
    lineChars_layCmd L hL t h.2.2.2.1 h.2.2.2.2, hpost⟩

end Cgt.Dsl
