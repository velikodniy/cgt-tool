import CgtModel.Lemmas.Offsets
import CgtModel.Lemmas.Conserve
import CgtModel.Lemmas.Days
/-! The whole cost pre-pass: the offsets it leaves on the lots add up to the signed amounts of exactly
    those CAPRETURN/ACCUMULATION events that found shares held ("took effect"); lots correspond
    one-to-one, in order, to the days that have a purchase. A day of the pre-pass is its events followed
    by its trades (`prepassDay_eq`); the trades keep every lot's (date, offset) key and add the day's
    purchase with offset 0 (`tradeStage_keeps`; events change offsets, so of the key only the date
    survives them: the `_props` lemmas carry `lotOrds`, the `_keeps` lemmas `lotKeys`); so a continuation
    without capital events leaves the offsets of the history's purchases as they were (`prepass_noEvents`). -/
namespace Cgt

def LotsInv (lots : List Lot) : Prop := ∀ l ∈ lots, 0 ≤ l.held

theorem lotsInv_nil : LotsInv [] := fun _ h => nomatch h

def lotOrds (lots : List Lot) : List Int := lots.map (·.ord)

/-- all that `offsetFor` looks at -/
def lotKeys (lots : List Lot) : List (Int × Rat) := lots.map (fun l => (l.ord, l.off))

theorem lotKeys_eq_zip (lots : List Lot) : lotKeys lots = (lotOrds lots).zip (lots.map (·.off)) :=
  (List.zip_map' ..).symm

theorem lotKeys_fst (lots : List Lot) : (lotKeys lots).map (·.1) = lotOrds lots := by
  simp [lotKeys, lotOrds]

theorem offSum_keys (lots : List Lot) : offSum lots = rsum ((lotKeys lots).map (·.2)) := by
  unfold lotKeys offSum
  rw [List.map_map]
  rfl

theorem offsetFor_eq_lookup (o : Int) : ∀ lots : List Lot, offsetFor o lots = ((lotKeys lots).lookup o).getD 0
  | [] => rfl
  | l :: ls => by
    simp only [offsetFor, lotKeys, List.map_cons, List.lookup_cons, offsetFor_eq_lookup o ls]
    by_cases h : l.ord = o
    · simp [h]
    · simp [h, show (o == l.ord) = false from beq_false_of_ne (Ne.symm h)]

theorem offsetFor_keys : ∀ (a b : List Lot), lotKeys a = lotKeys b → ∀ o, offsetFor o a = offsetFor o b := by
  intro a b h o
  rw [offsetFor_eq_lookup, offsetFor_eq_lookup, h]

theorem offsetFor_eq_zero {o : Int} {lots : List Lot} (h : o ∉ lotOrds lots) : offsetFor o lots = 0 := by
  rw [offsetFor_eq_lookup, List.lookup_eq_none_iff.mpr fun p hp => ?_]
  · rfl
  · rw [← lotKeys_fst] at h
    exact bne_iff_ne.mpr fun e => h (e ▸ List.mem_map_of_mem (f := (·.1)) hp)

theorem lookup_zeros (o : Int) : ∀ os : List Int, ((os.map (·, (0 : Rat))).lookup o).getD 0 = 0
  | [] => rfl
  | x :: xs => by
    simp only [List.map_cons, List.lookup_cons]
    split
    · rfl
    · exact lookup_zeros o xs

theorem offsetFor_of_keys_append_zero {a a' : List Lot} {os : List Int}
    (h : lotKeys a' = lotKeys a ++ os.map (·, 0)) (o : Int) : offsetFor o a' = offsetFor o a := by
  rw [offsetFor_eq_lookup, offsetFor_eq_lookup, h, List.lookup_append]
  cases (lotKeys a).lookup o with
  | some v => rfl
  | none => exact lookup_zeros o os

theorem applyAdj_props (adj : Rat) (lots : List Lot) (h : LotsInv lots) :
    LotsInv (applyAdj adj lots) ∧ offSum (applyAdj adj lots) = offSum lots + effOf adj lots
      ∧ lotOrds (applyAdj adj lots) = lotOrds lots := by
  refine ⟨?_, ?_, ?_⟩
  · rw [applyAdj_eq]
    refine List.forall_mem_map.mpr fun l hl => ?_
    rw [adjStep_held]
    exact h l hl
  · unfold effOf
    split
    · rename_i hth
      rw [applyAdj_none_held adj lots hth, Rat.add_zero]
    · rename_i hth
      exact applyAdj_sum adj lots h hth
  · rw [applyAdj_eq]
    unfold lotOrds
    rw [List.map_map]
    exact List.map_congr_left fun l _ => adjStep_ord ..

theorem held_consume (l : Lot) (a : Rat) (h : 0 ≤ l.held) :
    0 ≤ ({ l with consumed := l.consumed + min a l.held } : Lot).held := by
  have h' : 0 ≤ l.q - l.consumed := h
  show 0 ≤ l.q - (l.consumed + min a (l.q - l.consumed))
  have : min a (l.q - l.consumed) ≤ l.q - l.consumed := by grind
  grind

theorem consumeOn_keeps (ord : Int) (amt : Rat) : ∀ lots, LotsInv lots →
    LotsInv (consumeOn ord amt lots) ∧ lotKeys (consumeOn ord amt lots) = lotKeys lots
  | [], h => ⟨h, rfl⟩
  | l :: ls, h => by
    have ⟨hl, hls⟩ := List.forall_mem_cons.mp h
    simp only [consumeOn]
    split
    · exact ⟨List.forall_mem_cons.mpr ⟨held_consume l amt hl, hls⟩, rfl⟩
    · have ⟨i1, i2⟩ := consumeOn_keeps ord amt ls hls
      exact ⟨List.forall_mem_cons.mpr ⟨hl, i1⟩, congrArg (_ :: ·) i2⟩

theorem consumeBefore_keeps (ord : Int) : ∀ (lots : List Lot) (rem : Rat), LotsInv lots →
    LotsInv (consumeBefore ord rem lots) ∧ lotKeys (consumeBefore ord rem lots) = lotKeys lots
  | [], _, h => ⟨h, rfl⟩
  | l :: ls, rem, h => by
    have ⟨hl, hls⟩ := List.forall_mem_cons.mp h
    simp only [consumeBefore]
    split
    · have ⟨i1, i2⟩ := consumeBefore_keeps ord ls (rem - min rem l.held) hls
      exact ⟨List.forall_mem_cons.mpr ⟨held_consume l rem hl, i1⟩, congrArg (_ :: ·) i2⟩
    · have ⟨i1, i2⟩ := consumeBefore_keeps ord ls rem hls
      exact ⟨List.forall_mem_cons.mpr ⟨hl, i1⟩, congrArg (_ :: ·) i2⟩

theorem prepassSell_keeps (ord : Int) (amt : Rat) (lots : List Lot) (h : LotsInv lots) :
    LotsInv (prepassSell ord amt lots) ∧ lotKeys (prepassSell ord amt lots) = lotKeys lots := by
  unfold prepassSell
  split
  · exact ⟨h, rfl⟩
  · simp only
    split
    · have ⟨a1, a2⟩ := consumeOn_keeps ord (min amt (heldOn ord lots)) lots h
      split
      · have ⟨b1, b2⟩ := consumeBefore_keeps ord _ (amt - min amt (heldOn ord lots)) a1
        exact ⟨b1, b2.trans a2⟩
      · exact ⟨a1, a2⟩
    · exact consumeBefore_keeps ord lots amt h

theorem accStep_eq (ls : List Lot) (v : Rat) : accStep ls v = applyAdj v ls := by
  unfold accStep
  split
  · rename_i h
    have : ls = [] := by simpa using h
    subst this; rfl
  · rfl

theorem accsFold_props : ∀ (vs : List Rat) (lots : List Lot), LotsInv lots →
    LotsInv (vs.foldl accStep lots) ∧ offSum (vs.foldl accStep lots) = offSum lots + effAccs vs lots
      ∧ lotOrds (vs.foldl accStep lots) = lotOrds lots
  | [], lots, h => ⟨h, (Rat.add_zero _).symm, rfl⟩
  | v :: vs, lots, h => by
    have ⟨s1, s2, s3⟩ := applyAdj_props v lots h
    have ⟨a1, a2, a3⟩ := accsFold_props vs (applyAdj v lots) s1
    simp only [List.foldl_cons, effAccs, accStep_eq]
    exact ⟨a1, by rw [a2, s2, Rat.add_assoc], a3.trans s3⟩

/-- also when there is no lot yet: `applyCaps` then skips the return, and `applyAdj` leaves `[]` as it is -/
theorem applyCaps_cons_ok {t : String} {ord : Int} {idx : Nat} {net : Rat} {cs : List (Nat × Rat)}
    {lots lots' : List Lot} (h : applyCaps t ord ((idx, net) :: cs) lots = .ok lots') :
    applyCaps t ord cs (applyAdj (-net) lots) = .ok lots' := by
  simp only [applyCaps] at h
  split at h
  · rename_i hem
    rw [List.isEmpty_iff.mp hem] at h ⊢
    exact h
  · split at h
    · cases h
    · exact h

theorem applyCaps_props (t : String) (ord : Int) : ∀ (cs : List (Nat × Rat)) (lots lots' : List Lot),
    LotsInv lots → applyCaps t ord cs lots = .ok lots' →
    LotsInv lots' ∧ offSum lots' = offSum lots + effCaps cs lots ∧ lotOrds lots' = lotOrds lots
  | [], lots, lots', h, hc => by
    cases hc
    exact ⟨h, (Rat.add_zero _).symm, rfl⟩
  | (idx, net) :: cs, lots, lots', h, hc => by
    have ⟨s1, s2, s3⟩ := applyAdj_props (-net) lots h
    have ⟨a1, a2, a3⟩ := applyCaps_props t ord cs _ lots' s1 (applyCaps_cons_ok hc)
    simp only [effCaps]
    exact ⟨a1, by rw [a2, s2, Rat.add_assoc], a3.trans s3⟩

theorem scaleLot_off (r : Rat) (l : Lot) : (scaleLot r l).off = l.off := by
  unfold scaleLot; split <;> rfl
theorem scaleLot_ord (r : Rat) (l : Lot) : (scaleLot r l).ord = l.ord := by
  unfold scaleLot; split <;> rfl
theorem scaleLot_held (r : Rat) (l : Lot) (hr : r ≠ 0) : (scaleLot r l).held = l.held * r := by
  unfold scaleLot; simp only [hr, if_false, Lot.held]; grind

theorem scale_props (r : Rat) (hr : 0 < r) (lots : List Lot) (h : LotsInv lots) :
    LotsInv (lots.map (scaleLot r)) ∧ (lots.map (scaleLot r)).map (·.off) = lots.map (·.off)
      ∧ lotOrds (lots.map (scaleLot r)) = lotOrds lots := by
  have hne : r ≠ 0 := by grind
  refine ⟨?_, ?_, ?_⟩
  · intro l hl
    simp only [List.mem_map] at hl
    obtain ⟨l0, hl0, rfl⟩ := hl
    rw [scaleLot_held r l0 hne]
    exact Rat.mul_nonneg (h l0 hl0) (Rat.le_of_lt hr)
  · rw [List.map_map]; apply List.map_congr_left; intro l _; exact scaleLot_off r l
  · unfold lotOrds; rw [List.map_map]; apply List.map_congr_left; intro l _; exact scaleLot_ord r l

theorem scale_keeps (r : Rat) (hr : 0 < r) (lots : List Lot) (h : LotsInv lots) :
    LotsInv (lots.map (scaleLot r)) ∧ lotKeys (lots.map (scaleLot r)) = lotKeys lots := by
  have ⟨h1, h2, h3⟩ := scale_props r hr lots h
  refine ⟨h1, ?_⟩
  rw [lotKeys_eq_zip, h3, h2, ← lotKeys_eq_zip]

def buyOrd (d : Day) : List Int := match d.buy with | some _ => [d.ord] | none => []

theorem buyOrds_eq (ds : List Day) :
    (ds.map buyOrd).flatten = (ds.filter (fun d => d.buy.isSome)).map Day.ord := by
  induction ds with
  | nil => rfl
  | cons d ds ih =>
    simp only [List.map_cons, List.flatten_cons, List.filter_cons]
    cases hb : d.buy with
    | none => simp [buyOrd, hb, ih]
    | some b => simp [buyOrd, hb, ih]

theorem mem_buyOrds {o : Int} {ds : List Day} (h : o ∈ (ds.map buyOrd).flatten) : ∃ d ∈ ds, o = d.ord := by
  rw [buyOrds_eq] at h
  obtain ⟨d, hd, rfl⟩ := List.mem_map.mp h
  exact ⟨d, (List.mem_filter.mp hd).1, rfl⟩

def buyLot (d : Day) : List Lot :=
  match d.buy with
  | some b => [{ ord := d.ord, q := b.q, p := b.p, f := b.f }]
  | none => []

def tradeStage (d : Day) (lots : List Lot) : List Lot :=
  (d.sells.foldl (fun ls s => prepassSell d.ord s.q ls) (lots ++ buyLot d)).map (scaleLot d.r)

theorem prepassDay_eq (t : String) (lots : List Lot) (d : Day) :
    prepassDay t lots d = (applyCaps t d.ord d.caps (d.accs.foldl accStep lots)).map (tradeStage d) := by
  unfold prepassDay tradeStage buyLot
  show (match applyCaps t d.ord d.caps (d.accs.foldl accStep lots) with | .error e => _ | .ok lots => _) = _
  cases applyCaps t d.ord d.caps (d.accs.foldl accStep lots) with
  | error e => rfl
  | ok l1 => cases d.buy <;> simp [Except.map]

theorem tradeStage_keeps (d : Day) (lots : List Lot) (h : LotsInv lots) (hB : 0 ≤ d.B) (hr : 0 < d.r) :
    LotsInv (tradeStage d lots) ∧ lotKeys (tradeStage d lots) = lotKeys lots ++ (buyOrd d).map (·, 0) := by
  have hbuy : LotsInv (lots ++ buyLot d) ∧ lotKeys (lots ++ buyLot d) = lotKeys lots ++ (buyOrd d).map (·, 0) := by
    cases hb : d.buy with
    | none => simpa [buyLot, buyOrd, hb] using h
    | some b =>
      have hq : 0 ≤ b.q := by simpa [Day.B, hb] using hB
      refine ⟨List.forall_mem_append.mpr ⟨h, ?_⟩, by simp [buyLot, buyOrd, hb, lotKeys]⟩
      simp only [buyLot, hb, List.forall_mem_singleton, Lot.held]
      grind
  have hsells : ∀ (ss : List Trade) (ls : List Lot), LotsInv ls →
      LotsInv (ss.foldl (fun ls s => prepassSell d.ord s.q ls) ls) ∧
        lotKeys (ss.foldl (fun ls s => prepassSell d.ord s.q ls) ls) = lotKeys ls := by
    intro ss
    induction ss with
    | nil => exact fun ls h => ⟨h, rfl⟩
    | cons s ss ih =>
      intro ls h
      have ⟨a1, a2⟩ := prepassSell_keeps d.ord s.q ls h
      have ⟨b1, b2⟩ := ih _ a1
      exact ⟨b1, b2.trans a2⟩
  have ⟨s1, s2⟩ := hsells d.sells _ hbuy.1
  have ⟨c1, c2⟩ := scale_keeps d.r hr _ s1
  exact ⟨c1, c2.trans (s2.trans hbuy.2)⟩

theorem prepassDay_props (t : String) (lots lots' : List Lot) (d : Day) (h : LotsInv lots) (hB : 0 ≤ d.B)
    (hr : 0 < d.r) (hp : prepassDay t lots d = .ok lots') :
    LotsInv lots' ∧ offSum lots' = offSum lots + effDay lots d ∧ lotOrds lots' = lotOrds lots ++ buyOrd d := by
  rw [prepassDay_eq] at hp
  obtain ⟨a1, a2, a3⟩ := accsFold_props d.accs lots h
  cases hc : applyCaps t d.ord d.caps (d.accs.foldl accStep lots) with
  | error e => rw [hc] at hp; cases hp
  | ok lots1 =>
    rw [hc] at hp
    cases hp
    obtain ⟨b1, b2, b3⟩ := applyCaps_props t d.ord d.caps _ lots1 a1 hc
    obtain ⟨c1, c2⟩ := tradeStage_keeps d lots1 b1 hB hr
    refine ⟨c1, ?_, ?_⟩
    · rw [offSum_keys, c2, List.map_append, rsum_append, rsum_eq_zero (l := ((buyOrd d).map (·, 0)).map (·.2)) (by simp), ← offSum_keys, b2, a2]
      unfold effDay
      grind
    · rw [← lotKeys_fst, c2, List.map_append, lotKeys_fst, b3, a3, List.map_map]
      exact congrArg _ (List.map_id _)

theorem prepass_props (t : String) : ∀ (ds : List Day) (lots lots' : List Lot), LotsInv lots → daysOk ds →
    prepass t lots ds = .ok lots' →
    LotsInv lots' ∧ offSum lots' = offSum lots + effAll t lots ds
      ∧ lotOrds lots' = lotOrds lots ++ (ds.map buyOrd).flatten := by
  intro ds
  induction ds with
  | nil =>
    intro lots lots' h _ hp
    simp only [prepass, Except.ok.injEq] at hp; subst hp
    refine ⟨h, ?_, by simp⟩; simp [effAll]; grind
  | cons d ds ih =>
    intro lots lots' h hok hp
    simp only [prepass] at hp
    split at hp
    · cases hp
    · rename_i lots1 hd
      obtain ⟨⟨hr, -, hB⟩, hds⟩ := hok
      obtain ⟨a1, a2, a3⟩ := prepassDay_props t lots lots1 d h hB hr hd
      obtain ⟨b1, b2, b3⟩ := ih lots1 lots' a1 hds hp
      refine ⟨b1, ?_, ?_⟩
      · rw [b2, a2]; simp only [effAll, hd]; grind
      · rw [b3, a3]; simp

theorem sum_offsetFor : ∀ (lots : List Lot), (lotOrds lots).Nodup →
    rsum ((lotOrds lots).map (fun o => offsetFor o lots)) = offSum lots
  | [], _ => rfl
  | l :: ls, hnd => by
    have ⟨hnot, hnd'⟩ : l.ord ∉ lotOrds ls ∧ (lotOrds ls).Nodup := List.nodup_cons.mp hnd
    have htail : (lotOrds ls).map (fun o => offsetFor o (l :: ls)) = (lotOrds ls).map (fun o => offsetFor o ls) :=
      List.map_congr_left fun o ho => if_neg fun (e : l.ord = o) => hnot (by rw [e]; exact ho)
    show offsetFor l.ord (l :: ls) + rsum ((lotOrds ls).map fun o => offsetFor o (l :: ls)) = l.off + offSum ls
    rw [htail, sum_offsetFor ls hnd']
    simp [offsetFor]

theorem prepass_append (t : String) : ∀ (ps es : List Day) (lots : List Lot),
    prepass t lots (ps ++ es) = (match prepass t lots ps with | .error e => .error e | .ok l' => prepass t l' es) := by
  intro ps
  induction ps with
  | nil => intro es lots; rfl
  | cons d ps ih =>
    intro es lots
    simp only [List.cons_append, prepass]
    split
    · rfl
    · exact ih es _

theorem prepass_offsets_sum {t : String} {ds : List Day} {lots : List Lot} (hok : daysOk ds)
    (hstrict : ds.Pairwise (fun a b => a.ord < b.ord)) (hpre : prepass t [] ds = .ok lots) :
    rsum ((ds.filter (fun d => d.buy.isSome)).map fun d => offsetFor d.ord lots) = effAll t [] ds := by
  obtain ⟨_, hoff, hords⟩ := prepass_props t ds [] lots lotsInv_nil hok hpre
  have hlo : lotOrds lots = (ds.filter (fun d => d.buy.isSome)).map Day.ord := by
    rw [hords, buyOrds_eq]
    rfl
  have hnd : (lotOrds lots).Nodup := by
    rw [hlo]
    exact ((List.pairwise_map.mpr hstrict).sublist (List.Sublist.map _ List.filter_sublist)).imp
      fun hlt => Int.ne_of_lt hlt
  have hsum := sum_offsetFor lots hnd
  rw [hlo, List.map_map] at hsum
  rw [show (fun d : Day => offsetFor d.ord lots) = (fun o => offsetFor o lots) ∘ Day.ord from rfl, hsum, hoff]
  exact Rat.zero_add _

theorem prepassDay_noEvents (t : String) (lots : List Lot) (d : Day) (hinv : LotsInv lots) (hB : 0 ≤ d.B)
    (hr : 0 < d.r) (h : d.accs = [] ∧ d.caps = []) :
    ∃ lots', prepassDay t lots d = .ok lots' ∧ LotsInv lots' ∧ ∀ o, offsetFor o lots' = offsetFor o lots :=
  have ⟨c1, c2⟩ := tradeStage_keeps d lots hinv hB hr
  ⟨tradeStage d lots, by simp [prepassDay_eq, h.1, h.2, applyCaps, Except.map], c1,
    offsetFor_of_keys_append_zero c2⟩

theorem prepass_noEvents (t : String) : ∀ (es : List Day) (lots : List Lot), LotsInv lots → daysOk es → noEvents es →
    ∃ lots', prepass t lots es = .ok lots' ∧ ∀ o, offsetFor o lots' = offsetFor o lots
  | [], lots, _, _, _ => ⟨lots, rfl, fun _ => rfl⟩
  | d :: es, lots, hinv, hok, hne => by
    have ⟨hd, hes⟩ := List.forall_mem_cons.mp hne
    obtain ⟨⟨hr, -, hB⟩, hds⟩ := hok
    obtain ⟨l1, h1, i1, k1⟩ := prepassDay_noEvents t lots d hinv hB hr hd
    obtain ⟨l2, h2, k2⟩ := prepass_noEvents t es l1 i1 hds hes
    refine ⟨l2, ?_, fun o => (k2 o).trans (k1 o)⟩
    simp only [prepass, h1]
    exact h2

theorem withOffsets_noEvents (t : String) (ds : List Day) (hok : daysOk ds) (hne : noEvents ds)
    (h0 : ∀ d ∈ ds, d.offset = 0) : withOffsets t ds = .ok ds := by
  obtain ⟨lots, hp, hk⟩ := prepass_noEvents t ds [] lotsInv_nil hok hne
  unfold withOffsets
  rw [hp]
  refine congrArg Except.ok ((List.map_congr_left fun d hd => ?_).trans (List.map_id ds))
  rw [hk]
  show ({ d with offset := 0 } : Day) = d
  rw [← h0 d hd]

end Cgt
