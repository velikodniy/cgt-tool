import CgtModel.Days
import CgtModel.Lemmas.Normalize
import CgtModel.Lemmas.Calendar
/-! `groupDays` one line at a time, the day predicates it preserves, and the lines `daysOf` hands to it
    (`lines_…`: the expression `(indexed l).filter (·.2.ticker = t)`). For every ledger the day list of a
    security is strictly increasing in date (`daysOf_strict`): the dates preprocessing leaves are a subsequence
    of the date-sorted ones (`preprocess_sorted`), and `groupDays` starts a new day exactly when the ordinal
    changes.
    Line numbers do not matter to the days beyond being recorded in them: renumbering the lines renumbers the
    days (`Day.reindex`, `groupDays_reindex`), so a security's own lines alone give the same days up to line
    numbers (`daysOf_filter_reindex`, for C09). -/
namespace Cgt

def Day.ofLine (i : Nat) (t : Tx) : Day := ({ date := t.date } : Day).add i t.op

theorem Day.add_date (d : Day) (i : Nat) (op : Op) : (d.add i op).date = d.date := by
  cases op <;> simp only [Day.add] <;> (try split) <;> rfl

@[simp] theorem Day.ofLine_date (i : Nat) (t : Tx) : (Day.ofLine i t).date = t.date := Day.add_date ..
@[simp] theorem Day.ofLine_ord (i : Nat) (t : Tx) : (Day.ofLine i t).ord = t.ord :=
  congrArg Date.ord (Day.ofLine_date i t)
@[simp] theorem Day.merge_date (a b : Day) : (a.merge b).date = a.date := rfl
@[simp] theorem Day.merge_ord (a b : Day) : (a.merge b).ord = a.ord := rfl

theorem groupDays_cons (i : Nat) (t : Tx) (rest : List (Nat × Tx)) :
    groupDays ((i, t) :: rest) =
      match groupDays rest with
      | [] => [Day.ofLine i t]
      | d :: ds => if d.ord = t.ord then (Day.ofLine i t).merge d :: ds else Day.ofLine i t :: d :: ds := rfl

def Trade.reindex (ρ : Nat → Nat) (x : Trade) : Trade := { x with idx := ρ x.idx }
def Day.reindex (ρ : Nat → Nat) (d : Day) : Day :=
  { d with buy := d.buy.map (Trade.reindex ρ), sells := d.sells.map (Trade.reindex ρ),
           caps := d.caps.map (fun c => (ρ c.1, c.2)) }

theorem Day.add_reindex (ρ : Nat → Nat) (d : Day) (i : Nat) (op : Op) :
    (d.reindex ρ).add (ρ i) op = (d.add i op).reindex ρ := by
  cases op <;> simp [Day.add, Day.reindex, Trade.reindex]
  cases d.buy <;> simp [Trade.reindex]

theorem Day.merge_reindex (ρ : Nat → Nat) (a b : Day) :
    (a.reindex ρ).merge (b.reindex ρ) = (a.merge b).reindex ρ := by
  simp only [Day.merge, Day.reindex, List.map_append]
  cases a.buy <;> cases b.buy <;> simp [Trade.reindex]

theorem Day.ofLine_reindex (ρ : Nat → Nat) (i : Nat) (t : Tx) :
    Day.ofLine (ρ i) t = (Day.ofLine i t).reindex ρ := by
  unfold Day.ofLine
  rw [← Day.add_reindex]
  rfl

theorem groupDays_reindex (ρ : Nat → Nat) : ∀ xs : List (Nat × Tx),
    groupDays (xs.map (fun it => (ρ it.1, it.2))) = (groupDays xs).map (Day.reindex ρ)
  | [] => rfl
  | (i, t) :: xs => by
    rw [List.map_cons, groupDays_cons, groupDays_cons, groupDays_reindex ρ xs, Day.ofLine_reindex]
    cases groupDays xs with
    | nil => rfl
    | cons d ds =>
      simp only [List.map_cons, show (d.reindex ρ).ord = d.ord from rfl]
      split <;> simp only [List.map_cons, Day.merge_reindex]

theorem groupDays_head? : ∀ xs : List (Nat × Tx), (groupDays xs).head?.map Day.ord = xs.head?.map (·.2.ord)
  | [] => rfl
  | (i, t) :: rest => by
    rw [groupDays_cons]
    split
    · simp
    · split <;> simp

theorem groupDays_forall {Q : Day → Prop} (hm : ∀ a b, Q a → Q b → Q (a.merge b)) :
    ∀ xs : List (Nat × Tx), (∀ x ∈ xs, Q (Day.ofLine x.1 x.2)) → ∀ d ∈ groupDays xs, Q d
  | [], _ => by simp [groupDays]
  | (i, t) :: xs, h => by
    have ⟨ht, hxs⟩ := List.forall_mem_cons.mp h
    have ih := groupDays_forall hm xs hxs
    rw [groupDays_cons]
    split
    · exact List.forall_mem_singleton.mpr ht
    · rename_i d ds hg
      rw [hg] at ih
      have ⟨hd, hds⟩ := List.forall_mem_cons.mp ih
      split
      · exact List.forall_mem_cons.mpr ⟨hm _ _ ht hd, hds⟩
      · exact List.forall_mem_cons.mpr ⟨ht, ih⟩

theorem groupDays_date_mem (xs : List (Nat × Tx)) : ∀ d ∈ groupDays xs, ∃ x ∈ xs, d.date = x.2.date :=
  groupDays_forall (Q := fun d => ∃ x ∈ xs, d.date = x.2.date) (fun _ _ ha _ => ha) xs
    fun x hx => ⟨x, hx, Day.ofLine_date ..⟩

theorem Day.add_offset (d : Day) (i : Nat) (op : Op) : (d.add i op).offset = d.offset := by
  cases op <;> simp only [Day.add] <;> (try split) <;> rfl

theorem groupDays_offset (xs : List (Nat × Tx)) : ∀ d ∈ groupDays xs, d.offset = 0 :=
  groupDays_forall (Q := fun d => d.offset = 0) (fun _ _ _ _ => rfl) xs fun _ _ => Day.add_offset ..

theorem groupDays_strict : ∀ xs : List (Nat × Tx), xs.Pairwise (fun a b => a.2.ord ≤ b.2.ord) →
    (groupDays xs).Pairwise (fun a b => a.ord < b.ord)
  | [], _ => List.Pairwise.nil
  | (i, t) :: xs, h => by
    have ⟨hhead, htail⟩ := List.pairwise_cons.mp h
    have ih := groupDays_strict xs htail
    have hge : ∀ d ∈ groupDays xs, t.ord ≤ d.ord := fun d hd => by
      obtain ⟨y, hy, e⟩ := groupDays_date_mem xs d hd
      show t.ord ≤ d.date.ord
      rw [e]
      exact hhead y hy
    rw [groupDays_cons]
    split
    · exact List.pairwise_singleton ..
    · rename_i d ds hg
      rw [hg] at ih hge
      have ⟨hd, hds⟩ := List.pairwise_cons.mp ih
      have hd0 := hge d (List.mem_cons_self ..)
      split
      · rename_i heq
        refine List.pairwise_cons.mpr ⟨fun b hb => ?_, hds⟩
        rw [Day.merge_ord, Day.ofLine_ord, ← heq]
        exact hd b hb
      · refine List.pairwise_cons.mpr ⟨fun b hb => ?_, ih⟩
        rw [Day.ofLine_ord]
        rcases List.mem_cons.mp hb with rfl | hb
        · omega
        · have := hd b hb
          omega

theorem indexed_map_snd (l : List Tx) : (indexed l).map (·.2) = l := by
  unfold indexed
  rw [List.map_map]
  exact List.zipIdx_map_fst 0 l

theorem snd_mem_of_mem_indexed {x : Nat × Tx} {l : List Tx} (h : x ∈ indexed l) : x.2 ∈ l :=
  indexed_map_snd l ▸ List.mem_map_of_mem (f := (·.2)) h

theorem daysOf_absent (t : String) (pre : List Tx) (h : ∀ x ∈ pre, x.ticker ≠ t) : daysOf t pre = [] := by
  unfold daysOf
  rw [List.filter_eq_nil_iff.mpr fun it hit => by simp [h it.2 (snd_mem_of_mem_indexed hit)]]
  rfl

theorem lines_map_snd (t : String) (l : List Tx) :
    ((indexed l).filter (fun it => it.2.ticker = t)).map (·.2) = l.filter (fun x => x.ticker = t) := by
  have := List.filter_map (f := fun it : Nat × Tx => it.2) (p := fun x => decide (x.ticker = t)) (l := indexed l)
  rw [indexed_map_snd] at this
  exact this.symm

/-- any index column is a function of the position -/
theorem exists_numbering (xs : List (Nat × Tx)) :
    ∃ ρ : Nat → Nat, xs = (indexed (xs.map (·.2))).map (fun it => (ρ it.1, it.2)) := by
  refine ⟨fun j => (xs.map (·.1)).getD j 0, List.ext_getElem (by simp [indexed]) fun j h1 h2 => ?_⟩
  simp [indexed, List.getElem?_eq_getElem h1]

theorem daysOf_filter_reindex (t : String) (pre : List Tx) :
    ∃ ρ, daysOf t pre = (daysOf t (pre.filter (fun x => x.ticker = t))).map (Day.reindex ρ) := by
  obtain ⟨ρ, h⟩ := exists_numbering ((indexed pre).filter (fun it => it.2.ticker = t))
  refine ⟨ρ, ?_⟩
  unfold daysOf
  rw [List.filter_eq_self.mpr fun it hit => decide_eq_true (of_decide_eq_true (List.mem_filter.mp (snd_mem_of_mem_indexed hit)).2),
    ← groupDays_reindex, ← lines_map_snd, ← h]

theorem lines_pairwise {R : Tx → Tx → Prop} (t : String) {pre : List Tx} (h : pre.Pairwise R) :
    ((indexed pre).filter (fun it => it.2.ticker = t)).Pairwise (fun a b => R a.2 b.2) := by
  rw [← indexed_map_snd pre, List.pairwise_map] at h
  exact h.filter _

theorem daysOf_forall {Q : Day → Prop} (hm : ∀ a b, Q a → Q b → Q (a.merge b)) {t : String} {pre : List Tx}
    (h : ∀ i, ∀ x ∈ pre, x.ticker = t → Q (Day.ofLine i x)) : ∀ d ∈ daysOf t pre, Q d :=
  groupDays_forall hm _ fun x hx =>
    have ⟨hmem, ht⟩ := List.mem_filter.mp hx
    h x.1 x.2 (snd_mem_of_mem_indexed hmem) (of_decide_eq_true ht)

theorem daysOf_offset (t : String) (pre : List Tx) : ∀ d ∈ daysOf t pre, d.offset = 0 :=
  groupDays_offset _

theorem daysOf_date_mem (t : String) (pre : List Tx) :
    ∀ d ∈ daysOf t pre, ∃ x ∈ pre, x.ticker = t ∧ d.date = x.date :=
  daysOf_forall (Q := fun d => ∃ x ∈ pre, x.ticker = t ∧ d.date = x.date) (fun _ _ ha _ => ha)
    fun i x hx ht => ⟨x, hx, ht, Day.ofLine_date i x⟩

theorem daysOf_preprocess_date_mem (t : String) (l : List Tx) :
    ∀ d ∈ daysOf t (preprocess l), ∃ b ∈ l, b.ticker = t ∧ d.date = b.date := fun d hd => by
  obtain ⟨x, hx, ht, e⟩ := daysOf_date_mem t _ d hd
  obtain ⟨b, hb, hbd, hbt⟩ := preprocess_key_mem x hx
  exact ⟨b, hb, hbt.symm.trans ht, e.trans hbd⟩

theorem daysOf_strict_of_sorted (t : String) {pre : List Tx} (h : pre.Pairwise (fun a b => a.ord ≤ b.ord)) :
    (daysOf t pre).Pairwise (fun a b => a.ord < b.ord) :=
  groupDays_strict _ (lines_pairwise t h)

theorem daysOf_strict (l : List Tx) (t : String) :
    (daysOf t (preprocess l)).Pairwise (fun a b => a.ord < b.ord) :=
  daysOf_strict_of_sorted t (preprocess_sorted l)

def noEvents (es : List Day) : Prop := ∀ d ∈ es, d.accs = [] ∧ d.caps = []

/-- the dates of a ledger are told apart by their ordinals (`ord_inj`). The parser lets year 0000 through,
    `Date.ok` does not (why is said there) -/
def Spec.DatesOk (l : List Tx) : Prop := ∀ t ∈ l, t.date.ok

end Cgt
