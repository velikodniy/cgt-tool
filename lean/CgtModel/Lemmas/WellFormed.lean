import CgtModel.Lemmas.Cost
import CgtModel.Lemmas.Days
import CgtModel.Lemmas.Validate
/-! A validator-clean ledger (positive quantities and ratios, non-negative prices and fees) gives, for
    every security, a day list that satisfies the hypotheses of the matcher theorems (`daysOk`,
    `buysNonzero`). -/
namespace Cgt

def opOk : Op → Prop
  | .buy q p f | .sell q p f => 0 < q ∧ 0 ≤ p ∧ 0 ≤ f
  | .split r | .unsplit r => 0 < r
  | _ => True

instance : DecidablePred opOk := by
  intro o; cases o <;> unfold opOk <;> infer_instance

def TxOk (t : Tx) : Prop := opOk t.op
instance : DecidablePred TxOk := fun t => inferInstanceAs (Decidable (opOk t.op))

/-- what the standalone validator accepts, restricted to the fields the matcher theorems need -/
def WellFormed (l : List Tx) : Prop := ∀ t ∈ l, TxOk t
instance (l : List Tx) : Decidable (WellFormed l) := inferInstanceAs (Decidable (∀ t ∈ l, TxOk t))

theorem mergeTrade_ok (q p f q' p' f' : Rat) (h : 0 < q ∧ 0 ≤ p ∧ 0 ≤ f) (h' : 0 < q' ∧ 0 ≤ p' ∧ 0 ≤ f') :
    0 < (mergeTrade q p f q' p' f').1 ∧ 0 ≤ (mergeTrade q p f q' p' f').2.1 ∧ 0 ≤ (mergeTrade q p f q' p' f').2.2 := by
  unfold mergeTrade
  simp only
  have hq : 0 < q + q' := by grind
  have hne : q + q' ≠ 0 := by grind
  simp only [hne, ne_eq, not_false_eq_true, if_true]
  refine ⟨hq, ?_, by grind⟩
  apply rat_div_nonneg _ hq
  have h1 := Rat.mul_nonneg (Rat.le_of_lt h.1) h.2.1
  have h2 := Rat.mul_nonneg (Rat.le_of_lt h'.1) h'.2.1
  grind

theorem opOk_fuse {a b o : Op} (h : a.fuse? b = some o) (ha : opOk a) (hb : opOk b) : opOk o := by
  cases a <;> cases b <;> cases h <;> exact mergeTrade_ok _ _ _ _ _ _ ha hb

theorem preprocess_ok (l : List Tx) (h : WellFormed l) : WellFormed (preprocess l) :=
  preprocess_forall (fun _ _ _ => opOk_fuse) h

/-- `Day.ok` with strict inequalities, which also gives the `b.q ≠ 0` of `buysNonzero` -/
def Day.pos (d : Day) : Prop := 0 < d.r ∧ (∀ s ∈ d.sells, 0 < s.q) ∧ (∀ b, d.buy = some b → 0 < b.q)

theorem Day.merge_pos (a b : Day) (ha : a.pos) (hb : b.pos) : (a.merge b).pos := by
  obtain ⟨ar, as, ab⟩ := ha
  obtain ⟨br, bs, bb⟩ := hb
  refine ⟨Rat.mul_pos ar br, ?_, ?_⟩
  · intro s hs
    simp only [Day.merge, List.mem_append] at hs
    rcases hs with h | h
    · exact as s h
    · exact bs s h
  · intro x hx
    simp only [Day.merge] at hx
    cases h1 : a.buy with
    | none => rw [h1] at hx; simp only at hx; exact bb x hx
    | some y =>
      rw [h1] at hx
      cases h2 : b.buy with
      | none => rw [h2] at hx; simp only [Option.some.injEq] at hx; subst hx; exact ab y h1
      | some z =>
        rw [h2] at hx
        simp only [Option.some.injEq] at hx
        subst hx
        -- `mergeTrade_ok` would ask for the prices and fees too, which `Day.pos` does not carry
        show 0 < y.q + z.q
        have := ab y h1
        have := bb z h2
        grind

theorem Day.ofLine_pos (i : Nat) (t : Tx) (h : TxOk t) : (Day.ofLine i t).pos := by
  have h1 : (0 : Rat) < 1 := by decide
  unfold TxOk at h
  unfold Day.ofLine
  cases hop : t.op with
  | buy q p f =>
    rw [hop] at h
    exact ⟨h1, (fun _ h => nomatch h), fun b hb => Option.some.inj hb ▸ h.1⟩
  | sell q p f =>
    rw [hop] at h
    exact ⟨h1, fun s hs => List.mem_singleton.mp hs ▸ h.1, (fun _ h => nomatch h)⟩
  | split r =>
    rw [hop] at h
    exact ⟨Rat.mul_pos h1 h, (fun _ h => nomatch h), (fun _ h => nomatch h)⟩
  | unsplit r =>
    rw [hop] at h
    have hr : r ≠ 0 := fun e => by rw [e] at h; exact absurd h (by decide)
    refine ⟨?_, (fun _ h => nomatch h), (fun _ h => nomatch h)⟩
    simp only [Day.add, splitFactor, hr, ne_eq, not_false_eq_true, if_true]
    exact Rat.mul_pos h1 (rat_div_pos h1 h)
  | dividend v x | accumulation q v x | capreturn q v f => exact ⟨h1, (fun _ h => nomatch h), (fun _ h => nomatch h)⟩

theorem groupDays_pos (xs : List (Nat × Tx)) (h : ∀ x ∈ xs, TxOk x.2) : ∀ d ∈ groupDays xs, d.pos :=
  groupDays_forall Day.merge_pos xs fun x hx => Day.ofLine_pos x.1 x.2 (h x hx)

theorem Day.pos.ok {d : Day} (h : d.pos) : d.ok := by
  refine ⟨h.1, fun s hs => Rat.le_of_lt (h.2.1 s hs), ?_⟩
  unfold Day.B
  cases hb : d.buy with
  | none => exact Rat.le_refl
  | some b => exact Rat.le_of_lt (h.2.2 b hb)

theorem daysOf_pos {l : List Tx} (h : WellFormed l) (t : String) : ∀ d ∈ daysOf t (preprocess l), d.pos :=
  daysOf_forall Day.merge_pos fun i x hx _ => Day.ofLine_pos i x (preprocess_ok l h x hx)

theorem wellFormed_days (l : List Tx) (h : WellFormed l) (t : String) :
    daysOk (daysOf t (preprocess l)) ∧ buysNonzero (daysOf t (preprocess l)) :=
  ⟨daysOk_iff_forall.mpr fun d hd => (daysOf_pos h t d hd).ok,
    buysNonzero_iff_forall.mpr fun d hd b hb => Rat.ne_of_gt ((daysOf_pos h t d hd).2.2 b hb)⟩

theorem opOk_of_not_opBad (o : Op) (h : ¬ opBad o) : opOk o := by
  cases o <;> simp only [opBad, opOk] at h ⊢ <;> grind

theorem wellFormed_of_validator_clean (l : List Tx) (h : validateErrors l = []) : WellFormed l := by
  intro t ht
  unfold validateErrors at h
  rw [List.flatten_eq_nil_iff] at h
  exact opOk_of_not_opBad t.op fun hb => (opErrors_iff t.op).mpr hb (h _ (List.mem_map_of_mem ht))

end Cgt
