import CgtModel.Validate
/-! The validator's error list against the property's wording: `opErrors op` is non-empty exactly when
    `opBad op`. -/
namespace Cgt

theorem ite_single_ne_nil (c : Prop) [Decidable c] (x : String) :
    (if c then [x] else ([] : List String)) ≠ [] ↔ c := by
  by_cases h : c <;> simp [h]

theorem append_ne_nil {α : Type} (a b : List α) : a ++ b ≠ [] ↔ a ≠ [] ∨ b ≠ [] := by
  cases a <;> simp

theorem le_zero_iff (q : Rat) : q ≤ 0 ↔ q = 0 ∨ q < 0 := by
  rw [Rat.le_iff_lt_or_eq, or_comm]

/-- the validator tests "= 0" and "< 0" separately where the property says "≤ 0" -/
theorem opErrors_iff (op : Op) : opErrors op ≠ [] ↔ opBad op := by
  cases op <;> simp only [opErrors, opBad, append_ne_nil, ite_single_ne_nil, le_zero_iff, or_assoc]

end Cgt
