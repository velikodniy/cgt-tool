import CgtModel.Basic
/-! Error bounds for the two rounding modes. Both put the sign of `x` on an integer within ½ of
    `|x · 10ⁿ|` and divide by `10ⁿ`: the sign does not change the distance (`rabs_signed_sub`) and the
    division divides it (`rabs_div_sub_le`), so the value is within ½ · 10⁻ⁿ of `x` (`scaled_close`);
    which integer each mode picks is `near_floor` / `near_floor_succ`. -/
namespace Cgt

theorem pow10_pos (n : Nat) : 0 < pow10 n := by
  unfold pow10
  exact_mod_cast Nat.pow_pos (n := n) (by decide : 0 < 10)

theorem pow10_two : pow10 2 = 100 := by unfold pow10; norm_cast

theorem rabs_nonneg (x : Rat) : 0 ≤ rabs x := by unfold rabs; split <;> grind
theorem rabs_neg (x : Rat) : rabs (-x) = rabs x := by unfold rabs; split <;> split <;> grind
theorem rabs_le {a b : Rat} : rabs a ≤ b ↔ -b ≤ a ∧ a ≤ b := by unfold rabs; split <;> grind

theorem rabs_div_sub_le {a x P c : Rat} (hP : 0 < P) (h : rabs (a - x * P) ≤ c) :
    rabs (a / P - x) ≤ c / P := by
  have hi := Rat.le_of_lt (Rat.inv_pos.mpr hP)
  rw [show a / P - x = (a - x * P) * P⁻¹ by grind, Rat.div_def]
  rw [rabs_le] at h ⊢
  have h1 := Rat.mul_le_mul_of_nonneg_right h.1 hi
  have h2 := Rat.mul_le_mul_of_nonneg_right h.2 hi
  grind

theorem rabs_signed_sub {x y : Rat} (hs : x < 0 ↔ y < 0) (r : Rat) :
    rabs ((if x < 0 then -r else r) - y) = rabs (r - rabs y) := by
  by_cases h : x < 0
  · rw [if_pos h, show rabs y = -y from if_pos (hs.mp h), ← rabs_neg]
    congr 1
    grind
  · rw [if_neg h, show rabs y = y from if_neg (mt hs.mpr h)]

/-- the shape `roundHalfAway` and `roundHalfEven` share: the sign of `x` on an integer within ½ of `|x·P|` -/
theorem scaled_close {x P : Rat} (hP : 0 < P) {r : Int} (hr : rabs (r - rabs (x * P)) ≤ 1/2) :
    rabs ((if x < 0 then -(r : Rat) else r) / P - x) ≤ 1 / (2 * P) := by
  rw [show 1 / (2 * P) = (1/2) / P by grind]
  apply rabs_div_sub_le hP
  rwa [rabs_signed_sub (Rat.mul_neg_iff_of_pos_right hP).symm]

theorem near_floor {s : Rat} (h : s - s.floor ≤ 1/2) : rabs (s.floor - s) ≤ 1/2 := by
  have := Rat.floor_le s
  rw [rabs_le]
  grind

theorem near_floor_succ {s : Rat} (h : 1/2 ≤ s - s.floor) : rabs ((s.floor + 1 : Int) - s) ≤ 1/2 := by
  have := Rat.lt_floor_add_one s
  rw [rabs_le]
  grind

theorem floor_add_half (n : Int) : ((n : Rat) + 1/2).floor = n := by
  have : ((1 : Rat) / 2).floor = 0 := by decide +kernel
  rw [Rat.add_comm, Rat.floor_add_intCast, this, Int.zero_add]

theorem roundHalfAway_close (n : Nat) (x : Rat) :
    rabs (roundHalfAway n x - x) ≤ 1 / (2 * pow10 n) := by
  unfold roundHalfAway
  apply scaled_close (pow10_pos n)
  split
  · exact near_floor_succ ‹_›
  · exact near_floor (Rat.le_of_lt (Rat.not_le.mp ‹_›))

theorem roundHalfEven_close (n : Nat) (x : Rat) :
    rabs (roundHalfEven n x - x) ≤ 1 / (2 * pow10 n) := by
  unfold roundHalfEven
  apply scaled_close (pow10_pos n)
  split
  · exact near_floor_succ (Rat.le_of_lt ‹_›)
  · split
    · exact near_floor (Rat.le_of_lt ‹_›)
    · split
      · exact near_floor (Rat.not_lt.mp ‹¬ _ > _›)
      · exact near_floor_succ (Rat.not_lt.mp ‹¬ _ < _›)

end Cgt
