import CgtModel.Lemmas.Days
/-! A history followed by strictly later lines: sorting, fill merging and BUY coalescing act on the two
    parts separately, so every security's day list is the history's day list followed by the later
    lines' (line numbers shifted).
    For the sort (`mergeSort_append_of_lt`): tag every element with its position; the tagged order
    `zipIdxLE` has no ties, so a sorted permutation is unique, and the two sorted halves side by side are one. -/
namespace Cgt

section StableSort
open List

/-- core's `mergeSort_zipIdx` numbers from 0; the second half of an append is numbered from `l.length` -/
theorem mergeSort_zipIdx_off {α : Type} (le : α → α → Bool) (k : Nat) (s : List α) :
    (mergeSort (s.zipIdx k) (zipIdxLE le)).map (·.1) = mergeSort s le := by
  rw [zipIdx_eq_map_add (i := k)]
  rw [← map_mergeSort (r := zipIdxLE le) (s := zipIdxLE le) (f := fun (p : α × Nat) => (p.1, k + p.2))]
  · rw [map_map]
    have : ((fun x : α × Nat => x.1) ∘ fun p : α × Nat => (p.1, k + p.2)) = (·.1) := by funext x; rfl
    rw [this, mergeSort_zipIdx]
  · rintro ⟨a, i⟩ _ ⟨b, j⟩ _
    simp [zipIdxLE]

theorem mergeSort_append_of_lt {α : Type} (le : α → α → Bool)
    (trans : ∀ (a b c : α), le a b → le b c → le a c) (total : ∀ (a b : α), le a b || le b a)
    (l s : List α) (h : ∀ a ∈ l, ∀ b ∈ s, le a b = true ∧ le b a = false) :
    mergeSort (l ++ s) le = mergeSort l le ++ mergeSort s le := by
  rw [← mergeSort_zipIdx (l := l ++ s), ← mergeSort_zipIdx (l := l), ← mergeSort_zipIdx_off le l.length s, ← map_append]
  congr 1
  have hz : (l ++ s).zipIdx = l.zipIdx ++ s.zipIdx l.length := by
    rw [zipIdx_append]; simp
  have hperm : mergeSort ((l ++ s).zipIdx) (zipIdxLE le) ~ mergeSort l.zipIdx (zipIdxLE le) ++ mergeSort (s.zipIdx l.length) (zipIdxLE le) := by
    refine (mergeSort_perm _ _).trans ?_
    rw [hz]
    exact ((mergeSort_perm _ _).append (mergeSort_perm _ _)).symm
  apply Perm.eq_of_pairwise (le := fun a b => zipIdxLE le a b = true)
  · -- no ties: tagged elements below each other have one position, hence are one element of `l ++ s`
    rintro ⟨a, i⟩ ⟨b, j⟩ ha hb
    simp only [mem_mergeSort] at ha
    rw [← hperm.mem_iff, mem_mergeSort] at hb
    simp only [zipIdxLE]
    simp only [Bool.if_false_right, Bool.and_eq_true, Prod.mk.injEq, and_imp]
    intro ab h1 ba h2
    simp only [Bool.decide_eq_true] at ba
    replace h1 : i ≤ j := by simpa [ab, ba] using h1
    replace h2 : j ≤ i := by simpa [ab, ba] using h2
    cases Nat.le_antisymm h1 h2
    constructor
    · have := mem_zipIdx ha
      have := mem_zipIdx hb
      simp_all
    · rfl
  · exact pairwise_mergeSort (zipIdxLE_trans trans) (zipIdxLE_total total) ..
  · rw [pairwise_append]
    refine ⟨pairwise_mergeSort (zipIdxLE_trans trans) (zipIdxLE_total total) .., pairwise_mergeSort (zipIdxLE_trans trans) (zipIdxLE_total total) .., ?_⟩
    rintro ⟨a, i⟩ ha ⟨b, j⟩ hb
    simp only [mem_mergeSort] at ha hb
    have ha' := mem_zipIdx ha
    have hb' := mem_zipIdx hb
    have hal : a ∈ l := by rw [ha'.2.2]; exact getElem_mem _
    have hbs : b ∈ s := by rw [hb'.2.2]; exact getElem_mem _
    have := h a hal b hbs
    simp [zipIdxLE, this.1, this.2]
  · exact hperm

end StableSort

theorem sortByDate_append (l s : List Tx) (h : ∀ a ∈ l, ∀ b ∈ s, a.ord < b.ord) :
    sortByDate (l ++ s) = sortByDate l ++ sortByDate s :=
  mergeSort_append_of_lt _ ordLe_trans ordLe_total l s fun a ha b hb =>
    ⟨decide_eq_true (Int.le_of_lt (h a ha b hb)), decide_eq_false (Int.not_le.mpr (h a ha b hb))⟩

theorem mergeInto_append (B : List Tx) : ∀ (rest : List Tx) (cur : Tx),
    (∀ b ∈ B, cur.date ≠ b.date) → (∀ a ∈ rest, ∀ b ∈ B, a.date ≠ b.date) →
    mergeInto cur (rest ++ B) = mergeInto cur rest ++ mergeAdjacent B
  | [], cur, hc, _ => by
    cases B with
    | nil => simp [mergeInto, mergeAdjacent]
    | cons nxt B' =>
      rw [List.nil_append, mergeInto_cons, if_neg fun h => hc nxt (List.mem_cons_self ..) h.1.symm]
      rfl
  | nxt :: rest, cur, hc, hr => by
    have ⟨hn, hrest⟩ := List.forall_mem_cons.mp hr
    rw [List.cons_append, mergeInto_cons, mergeInto_cons]
    split
    · exact mergeInto_append B rest _ hc hrest
    · rw [mergeInto_append B rest nxt hn hrest]
      rfl

theorem mergeAdjacent_append (A B : List Tx) (h : ∀ a ∈ A, ∀ b ∈ B, a.date ≠ b.date) :
    mergeAdjacent (A ++ B) = mergeAdjacent A ++ mergeAdjacent B := by
  cases A with
  | nil => simp [mergeAdjacent]
  | cons a A' =>
    simp only [List.cons_append, mergeAdjacent]
    exact mergeInto_append B A' a (fun b hb => h a (by simp) b hb) (fun x hx => h x (by simp [hx]))

theorem foldBuy_prefix (date : Date) (ticker : String) (q p f : Rat) (acc : List Tx) :
    ∀ (C : List Tx), (∀ c ∈ C, c.date ≠ date) →
    foldBuy date ticker q p f (C ++ acc) = (foldBuy date ticker q p f acc).map (C ++ ·) := by
  intro C
  induction C with
  | nil => intro _; simp
  | cons c C ih =>
    intro h
    have hc : ¬ (c.date = date ∧ c.ticker = ticker) := fun hh => h c (by simp) hh.1
    simp only [List.cons_append, foldBuy, hc, if_false]
    rw [ih (fun x hx => h x (by simp [hx]))]
    cases foldBuy date ticker q p f acc <;> simp

theorem coalesceStep_prefix (C acc : List Tx) (nxt : Tx) (h : ∀ c ∈ C, c.date ≠ nxt.date) :
    coalesceStep (C ++ acc) nxt = C ++ coalesceStep acc nxt := by
  unfold coalesceStep
  split
  · rename_i q p f hop
    rw [foldBuy_prefix _ _ _ _ _ acc C h]
    cases foldBuy nxt.date nxt.ticker q p f acc <;> simp
  · simp

theorem coalesceFold_prefix (C : List Tx) : ∀ (Bs acc : List Tx), (∀ c ∈ C, ∀ b ∈ Bs, c.date ≠ b.date) →
    Bs.foldl coalesceStep (C ++ acc) = C ++ Bs.foldl coalesceStep acc := by
  intro Bs
  induction Bs with
  | nil => intro acc _; rfl
  | cons b Bs ih =>
    intro acc h
    simp only [List.foldl_cons]
    rw [coalesceStep_prefix C acc b (fun c hc => h c hc b (by simp))]
    exact ih _ (fun c hc x hx => h c hc x (by simp [hx]))

theorem coalesceBuys_append (A B : List Tx) (h : ∀ a ∈ A, ∀ b ∈ B, a.date ≠ b.date) :
    coalesceBuys (A ++ B) = coalesceBuys A ++ coalesceBuys B := by
  unfold coalesceBuys
  rw [List.foldl_append]
  have hC : ∀ c ∈ A.foldl coalesceStep [], ∀ b ∈ B, c.date ≠ b.date :=
    coalesceBuys_forall (P := fun c => ∀ b ∈ B, c.date ≠ b.date) (fun _ _ _ _ hc _ => hc) h
  have := coalesceFold_prefix (A.foldl coalesceStep []) B [] hC
  simpa using this

theorem preprocess_append (l s : List Tx) (h : ∀ a ∈ l, ∀ b ∈ s, a.ord < b.ord) :
    preprocess (l ++ s) = preprocess l ++ preprocess s := by
  have hne : ∀ a ∈ l, ∀ b ∈ s, a.date ≠ b.date := by
    intro a ha b hb e
    have := h a ha b hb
    unfold Tx.ord at this; rw [e] at this; omega
  have hsl : ∀ a ∈ sortByDate l, ∀ b ∈ sortByDate s, a.date ≠ b.date :=
    fun a ha b hb => hne a (mem_sortByDate.mp ha) b (mem_sortByDate.mp hb)
  unfold preprocess
  rw [sortByDate_append l s h, mergeAdjacent_append _ _ hsl]
  apply coalesceBuys_append
  intro a ha b hb
  obtain ⟨a0, ha0, ea, _⟩ := mergeAdjacent_key_mem a ha
  obtain ⟨b0, hb0, eb, _⟩ := mergeAdjacent_key_mem b hb
  rw [ea, eb]
  exact hsl a0 ha0 b0 hb0

def Trade.shift (n : Nat) (x : Trade) : Trade := { x with idx := x.idx + n }
def Day.shift (n : Nat) (d : Day) : Day :=
  { d with buy := d.buy.map (Trade.shift n), sells := d.sells.map (Trade.shift n),
           caps := d.caps.map (fun c => (c.1 + n, c.2)) }

theorem Day.shift_eq_reindex (n : Nat) : Day.shift n = Day.reindex (· + n) := rfl

theorem groupDays_append : ∀ (X Y : List (Nat × Tx)), (∀ x ∈ X, ∀ y ∈ Y, x.2.ord ≠ y.2.ord) →
    groupDays (X ++ Y) = groupDays X ++ groupDays Y
  | [], _, _ => rfl
  | (i, t) :: X, Y, h => by
    have ⟨ht, hX⟩ := List.forall_mem_cons.mp h
    rw [List.cons_append, groupDays_cons, groupDays_cons, groupDays_append X Y hX]
    cases hg : groupDays X with
    | cons d ds =>
      simp only [List.cons_append]
      split <;> rfl
    | nil =>
      -- no day, so no line, in `X`; the first day of `Y` is its first line's, not `t`'s
      have hh := groupDays_head? X
      rw [hg] at hh
      cases X with
      | cons x X' => simp at hh
      | nil =>
        have hY := groupDays_head? Y
        cases hgY : groupDays Y with
        | nil => rfl
        | cons e es =>
          rw [hgY] at hY
          cases Y with
          | nil => simp at hY
          | cons y Y' =>
            have : ¬ e.ord = t.ord := fun he => ht y (List.mem_cons_self ..) (by simpa [he] using hY)
            simp [this]

theorem indexed_append (P Q : List Tx) :
    indexed (P ++ Q) = indexed P ++ (indexed Q).map (fun it => (it.1 + P.length, it.2)) := by
  unfold indexed
  rw [List.zipIdx_append, List.map_append, List.map_map]
  congr 1
  simp only [Nat.zero_add]
  rw [List.zipIdx_eq_map_add (i := P.length), List.map_map]
  apply List.map_congr_left
  rintro ⟨a, j⟩ _
  simp [Nat.add_comm]

theorem daysOf_append (t : String) (P Q : List Tx) (h : ∀ a ∈ P, ∀ b ∈ Q, a.ord ≠ b.ord) :
    daysOf t (P ++ Q) = daysOf t P ++ (daysOf t Q).map (Day.shift P.length) := by
  unfold daysOf
  rw [indexed_append, List.filter_append, Day.shift_eq_reindex, ← groupDays_reindex]
  have hf : ((indexed Q).map (fun it => (it.1 + P.length, it.2))).filter (fun it => decide (it.2.ticker = t))
      = ((indexed Q).filter (fun it => decide (it.2.ticker = t))).map (fun it => (it.1 + P.length, it.2)) := by
    rw [List.filter_map]; rfl
  rw [hf]
  apply groupDays_append
  intro x hx y hy
  simp only [List.mem_filter, List.mem_map] at hx hy
  obtain ⟨y0, ⟨hy0, _⟩, rfl⟩ := hy
  exact h x.2 (snd_mem_of_mem_indexed hx.1) y0.2 (snd_mem_of_mem_indexed hy0)

theorem daysOf_preprocess_append (l s : List Tx) (h : ∀ a ∈ l, ∀ b ∈ s, a.ord < b.ord) (t : String) :
    daysOf t (preprocess (l ++ s)) =
      daysOf t (preprocess l) ++ (daysOf t (preprocess s)).map (Day.shift (preprocess l).length) := by
  rw [preprocess_append l s h]
  refine daysOf_append t _ _ fun a ha b hb => ?_
  obtain ⟨a0, ha0, ea, _⟩ := preprocess_key_mem a ha
  obtain ⟨b0, hb0, eb, _⟩ := preprocess_key_mem b hb
  have := h a0 ha0 b0 hb0
  unfold Tx.ord at *
  rw [ea, eb]
  omega

theorem tickersOf_append (P Q : List Tx) :
    ∃ T, tickersOf (P ++ Q) = tickersOf P ++ T ∧ ∀ t ∈ T, ∀ x ∈ P, x.ticker ≠ t := by
  refine ⟨_, by unfold tickersOf; rw [List.map_append, List.eraseDups_append], fun t ht x hx e => ?_⟩
  have hx' : t ∈ P.map (·.ticker) := List.mem_map.mpr ⟨x, hx, e⟩
  have := (List.mem_filter.mp (List.mem_eraseDups.mp ht)).2
  simp [hx'] at this

end Cgt
