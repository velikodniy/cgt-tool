import CgtModel.Report
/-! What each function of the report layer does on each form of input: the all-or-first-error map
    (`mapExcept`, of which `yearsOf` is an instance), `mkSummary`, the tax year of a date, the year
    filter, the members of `sortDedup`, and `calculate` and `run` read backwards from a successful result. -/
namespace Cgt

theorem mapExcept_ok_iff {α β ε : Type} {f : α → Except ε β} {as : List α} {bs : List β} :
    mapExcept f as = .ok bs ↔ as.map f = bs.map .ok := by
  induction as generalizing bs with
  | nil => cases bs <;> simp [mapExcept]
  | cons a as ih =>
    simp only [mapExcept, List.map_cons]
    cases f a with
    | error e => cases bs <;> simp
    | ok b => cases h : mapExcept f as <;> cases bs <;> simp [← ih, h]

theorem mapExcept_mem {α β ε : Type} {f : α → Except ε β} {as : List α} {bs : List β}
    (h : mapExcept f as = .ok bs) {b : β} (hb : b ∈ bs) : ∃ a ∈ as, f a = .ok b := by
  have : Except.ok b ∈ as.map f := mapExcept_ok_iff.mp h ▸ List.mem_map_of_mem hb
  simpa using this

theorem mapExcept_map {α β ε : Type} {f : α → Except ε β} {g : β → α} (hg : ∀ a b, f a = .ok b → g b = a)
    {as : List α} {bs : List β} (h : mapExcept f as = .ok bs) : bs.map g = as := by
  rw [mapExcept_ok_iff] at h
  induction as generalizing bs with
  | nil => cases bs <;> simp_all
  | cons a as ih =>
    cases bs with
    | nil => simp at h
    | cons b bs =>
      simp only [List.map_cons, List.cons.injEq] at h ⊢
      exact ⟨hg a b h.1, ih h.2⟩

theorem yearsOf_eq (ds : List Disposal) : yearsOf ds = mapExcept (fun d => taxYearOf d.date) ds := by
  induction ds with
  | nil => rfl
  | cons d ds ih =>
    simp only [yearsOf, mapExcept, ih]
    cases taxYearOf d.date with
    | error e => rfl
    | ok y => cases mapExcept (fun d => taxYearOf d.date) ds <;> rfl

theorem lookupExemption_append (a b : List (Int × Rat)) (y : Int) :
    lookupExemption (a ++ b) y = (lookupExemption a y).or (lookupExemption b y) := by
  simp only [lookupExemption, List.find?_append, Option.map_or]

theorem mkSummary_ok {ex : List (Int × Rat)} {l : List Tx} {y : Int} {ds : List Disposal} {s : YearSummary} :
    mkSummary ex l y ds = .ok s ↔ ∃ e, lookupExemption ex y = some e ∧
      s = { year := y, disposals := ds, totalGain := (totals ds).1, totalLoss := (totals ds).2,
            netGain := (totals ds).1 - (totals ds).2, exempt := e,
            divIncome := (dividendsOf l y).1, divTax := (dividendsOf l y).2 } := by
  unfold mkSummary
  cases lookupExemption ex y <;> simp [eq_comm]

theorem mkSummary_year {ex : List (Int × Rat)} {l : List Tx} {y : Int} {ds : List Disposal} {s : YearSummary}
    (h : mkSummary ex l y ds = .ok s) : s.year = y := by
  obtain ⟨_, _, rfl⟩ := mkSummary_ok.mp h; rfl

/-- a year in the supported range is a `u16`, so the first test of `taxYearOf` never decides -/
theorem taxYearOf_ok {t : Date} {Y : Int} :
    taxYearOf t = .ok Y ↔ taxYearStart t = Y ∧ taxYearMin ≤ Y ∧ Y ≤ taxYearMax := by
  unfold taxYearOf
  simp only
  generalize taxYearStart t = s
  -- split first: unfolding the constants under an `if` leaves its `Decidable` instance behind
  split
  · simp only [reduceCtorEq, false_iff, taxYearMin, taxYearMax]; omega
  · split <;> rename_i h <;> simp only [taxYearMin, taxYearMax] at h ⊢
    · simp only [reduceCtorEq, false_iff]; omega
    · simp only [Except.ok.injEq]; omega

/-- 6 April Y … 5 April Y+1, in the (year, month, day) order: no calendar needed -/
theorem taxYearStart_eq_iff (t : Date) (Y : Int) :
    taxYearStart t = Y ↔ Date.le ⟨Y, taxYearStartMonth, taxYearStartDay⟩ t ∧
      Date.le t ⟨Y + 1, taxYearStartMonth, taxYearStartDay - 1⟩ := by
  unfold taxYearStart Date.le
  split <;> simp only [taxYearStartMonth, taxYearStartDay] at * <;> omega

theorem inYear_iff {y : Int} {d : Date} : inYear y d = true ↔ taxYearOf d = .ok y := by
  unfold inYear
  cases taxYearOf d <;> simp

theorem mem_insertSorted (y : Int) : ∀ (l : List Int) (x : Int), x ∈ insertSorted y l ↔ x = y ∨ x ∈ l := by
  intro l
  induction l with
  | nil => intro x; simp [insertSorted]
  | cons a as ih =>
    intro x
    simp only [insertSorted]
    split
    · simp
    · split
      · rename_i h; subst h; simp
      · simp only [List.mem_cons, ih]
        constructor
        · rintro (h | h | h) <;> simp [h]
        · rintro (h | h | h) <;> simp [h]

theorem mem_sortDedup (ys : List Int) (x : Int) : x ∈ sortDedup ys ↔ x ∈ ys := by
  induction ys with
  | nil => simp [sortDedup]
  | cons y ys ih =>
    simp only [sortDedup, List.foldr_cons] at ih ⊢
    rw [mem_insertSorted, ih]; simp

theorem allYears_ok {ex : List (Int × Rat)} {l : List Tx} {ds : List Disposal} {out : List YearSummary} :
    allYears ex l ds = .ok out ↔ ∃ ys, yearsOf ds = .ok ys ∧
      mapExcept (fun y => mkSummary ex l y (ds.filter (fun d => inYear y d.date))) (sortDedup ys) = .ok out := by
  unfold allYears
  cases yearsOf ds <;> simp

theorem calculate_ok {w : Int} {dp : Nat} {ex : List (Int × Rat)} {year : Option Int} {l : List Tx} {r : Report} :
    calculate w dp ex year l = .ok r ↔ ∃ rs, run w l = .ok rs ∧ reportFrom dp ex year l rs = .ok r := by
  unfold calculate
  cases run w l <;> simp

theorem reportFrom_some_ok {dp : Nat} {ex : List (Int × Rat)} {y : Int} {l : List Tx} {rs : List TickerResult}
    {r : Report} : reportFrom dp ex (some y) l rs = .ok r ↔
      ∃ s, oneYear ex l (allDisposals dp rs) y = .ok s ∧ r = ⟨[s], holdingsOf rs⟩ := by
  simp only [reportFrom]
  cases oneYear ex l (allDisposals dp rs) y <;> simp [Except.map, eq_comm]

theorem reportFrom_none_ok {dp : Nat} {ex : List (Int × Rat)} {l : List Tx} {rs : List TickerResult}
    {r : Report} : reportFrom dp ex none l rs = .ok r ↔
      ∃ ys, allYears ex l (allDisposals dp rs) = .ok ys ∧ r = ⟨ys, holdingsOf rs⟩ := by
  simp only [reportFrom]
  cases allYears ex l (allDisposals dp rs) <;> simp [eq_comm]

theorem reportFrom_holdings {dp : Nat} {ex : List (Int × Rat)} {year : Option Int} {l : List Tx}
    {rs : List TickerResult} {r : Report} (h : reportFrom dp ex year l rs = .ok r) : r.holdings = holdingsOf rs := by
  cases year with
  | some y => obtain ⟨_, _, rfl⟩ := reportFrom_some_ok.mp h; rfl
  | none => obtain ⟨_, _, rfl⟩ := reportFrom_none_ok.mp h; rfl

theorem oneYear_from_mkSummary {ex : List (Int × Rat)} {l : List Tx} {ds : List Disposal} {y : Int} {s : YearSummary}
    (h : oneYear ex l ds y = .ok s) : ∃ y' sel, mkSummary ex l y' sel = .ok s := by
  unfold oneYear at h
  split at h
  · cases h
  · split at h
    · cases h
    · simp only at h
      split at h
      · cases h
      · exact ⟨_, _, h⟩

theorem totals_cons (d : Disposal) (ds : List Disposal) :
    totals (d :: ds) = ((totals ds).1 + (if d.netGain > 0 then d.netGain else 0),
      (totals ds).2 + (if d.netGain < 0 then rabs d.netGain else 0)) := by
  simp only [totals]
  split
  · rename_i h
    have : ¬ d.netGain < 0 := by grind
    rw [if_neg this, Rat.add_zero]
  · split
    · rw [Rat.add_zero]
    · rw [Rat.add_zero, Rat.add_zero]

theorem totals_perm {a b : List Disposal} (h : a.Perm b) : totals a = totals b := by
  induction h with
  | nil => rfl
  | cons x _ ih => rw [totals_cons, totals_cons, ih]
  | swap x y l =>
    simp only [totals_cons]
    exact Prod.ext (by grind) (by grind)
  | trans _ _ ih1 ih2 => rw [ih1, ih2]

/-- there is no `firstErr_some`: nothing is proved about which error a refused ledger reports -/
theorem firstErr_none {α : Type} : ∀ (xs : List (Except MErr α)), firstErr xs = none ↔ ∀ x ∈ xs, ∃ v, x = .ok v := by
  intro xs
  induction xs with
  | nil => exact ⟨fun _ x hx => (nomatch hx), fun _ => rfl⟩
  | cons y ys ih =>
    cases y with
    | ok v =>
      simp only [firstErr, ih, List.forall_mem_cons]
      exact ⟨fun h => ⟨⟨v, rfl⟩, h⟩, fun h => h.2⟩
    | error e =>
      simp only [firstErr]
      constructor
      · intro h
        split at h
        · split at h <;> cases h
        · cases h
      · intro h
        obtain ⟨v, hv⟩ := h (.error e) List.mem_cons_self
        cases hv

/-- security `t`'s entry in the result of an accepted run -/
def resultOf (w : Int) (l : List Tx) (t : String) : TickerResult :=
  match runTicker t w (daysOf t (preprocess l)) with
  | .ok (pool, legs) => ⟨t, pool, legs⟩
  | .error _ => ⟨t, none, []⟩

@[simp] theorem resultOf_ticker (w : Int) (l : List Tx) (t : String) : (resultOf w l t).ticker = t := by
  unfold resultOf
  split <;> rfl

theorem run_ok {w : Int} {l : List Tx} {rs : List TickerResult} (h : run w l = .ok rs) :
    rs = (tickersOf (preprocess l)).map (resultOf w l) ∧
    ∀ t ∈ tickersOf (preprocess l),
      runTicker t w (daysOf t (preprocess l)) = .ok ((resultOf w l t).pool, (resultOf w l t).legs) := by
  unfold run runPre at h
  simp only at h
  split at h
  · cases h
  · rename_i hnone
    cases h
    have hall : ∀ t ∈ tickersOf (preprocess l), ∃ v, runTicker t w (daysOf t (preprocess l)) = .ok v :=
      fun t ht => (firstErr_none _).mp hnone _ (by simp only [List.map_map]; exact List.mem_map_of_mem (f := _) ht)
    refine ⟨?_, fun t ht => ?_⟩
    · generalize tickersOf (preprocess l) = ts at hall
      induction ts with
      | nil => rfl
      | cons t ts ih =>
        obtain ⟨v, hv⟩ := hall t (List.mem_cons_self ..)
        simp only [List.map_cons, List.filterMap_cons, hv, resultOf]
        exact congrArg _ (ih fun x hx => hall x (List.mem_cons_of_mem _ hx))
    · obtain ⟨v, hv⟩ := hall t ht
      simp only [resultOf, hv]

theorem C02.run_result (w : Int) (l : List Tx) (rs : List TickerResult) (h : run w l = .ok rs) :
    ∀ r ∈ rs, runTicker r.ticker w (daysOf r.ticker (preprocess l)) = .ok (r.pool, r.legs) := by
  intro r hr
  rw [(run_ok h).1] at hr
  obtain ⟨t, ht, rfl⟩ := List.mem_map.mp hr
  rw [resultOf_ticker]
  exact (run_ok h).2 t ht

theorem run_ok_iff (w : Int) (l : List Tx) :
    (∃ rs, run w l = .ok rs) ↔
      ∀ t ∈ tickersOf (preprocess l), ∃ r, runTicker t w (daysOf t (preprocess l)) = .ok r := by
  refine ⟨fun ⟨_, h⟩ t ht => ⟨_, (run_ok h).2 t ht⟩, fun h => ?_⟩
  unfold run runPre
  have hnone : firstErr (((tickersOf (preprocess l)).map
      (fun t => (t, runTicker t w (daysOf t (preprocess l))))).map (·.2)) = none := by
    rw [firstErr_none]
    intro x hx
    simp only [List.map_map, List.mem_map] at hx
    obtain ⟨t, ht, rfl⟩ := hx
    exact h t ht
  simp only [hnone]
  exact ⟨_, rfl⟩

theorem run_tickers (w : Int) (l : List Tx) (rs : List TickerResult) (h : run w l = .ok rs) :
    rs.map (·.ticker) = tickersOf (preprocess l) := by
  rw [(run_ok h).1, List.map_map]
  exact (List.map_congr_left fun t _ => resultOf_ticker w l t).trans (List.map_id _)

theorem disposals_by_ticker (dp : Nat) (w : Int) (l : List Tx) (rs : List TickerResult) (h : run w l = .ok rs) :
    (rs.map (fun r => groupLegs dp r.ticker r.legs)).flatten
      = (tickersOf (preprocess l)).flatMap (fun t => groupLegs dp t (resultOf w l t).legs) := by
  rw [(run_ok h).1, List.map_map, List.flatMap_def]
  exact congrArg _ (List.map_congr_left fun t _ => by simp)

end Cgt
