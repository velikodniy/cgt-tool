import CgtModel.Fx
/-! What the rate cache, the conversion of one amount and the loader's row check do on each form of
    input. -/
namespace Cgt

theorem Cache.get_append (a b : Cache) (k : RateKey) : Cache.get (a ++ b) k = (Cache.get a k).or (Cache.get b k) := by
  simp only [Cache.get, List.find?_append, Option.map_or]

theorem Cache.get_extend (c : Cache) (entries : List (RateKey × Rat)) (k : RateKey) :
    (c.extend entries).get k = (Cache.get entries.reverse k).or (c.get k) :=
  Cache.get_append _ _ _

theorem Cache.get_eq_none {c : Cache} {k : RateKey} : c.get k = none ↔ ∀ e ∈ c, e.1 ≠ k := by
  simp only [Cache.get, Option.map_eq_none_iff, List.find?_eq_none, decide_eq_true_eq, ne_eq]

theorem Cache.mem_of_get {c : Cache} {k : RateKey} {r : Rat} (h : c.get k = some r) : (k, r) ∈ c := by
  obtain ⟨e, he, rfl⟩ := Option.map_eq_some_iff.mp h
  have hk : e.1 = k := by simpa using List.find?_some he
  exact hk ▸ List.mem_of_find?_eq_some he

theorem toGbpAmt_gbp (c : Cache) (d : Date) {a : CAmt} (h : a.cur = "GBP") : toGbpAmt c d a = .ok a.amt := by
  simp [toGbpAmt, h]

theorem toGbpAmt_zero (c : Cache) (d : Date) {a : CAmt} (h : a.amt = 0) : toGbpAmt c d a = .ok 0 := by
  unfold toGbpAmt; split <;> simp [h]

theorem toGbpAmt_rate (c : Cache) (d : Date) {a : CAmt} {r : Rat} (hc : a.cur ≠ "GBP") (hz : a.amt ≠ 0)
    (hr : c.get (a.cur, d.y, d.m) = some r) : toGbpAmt c d a = .ok (a.amt / r) := by
  simp [toGbpAmt, hc, hz, hr]

theorem toGbpAmt_no_rate (c : Cache) (d : Date) {a : CAmt} (hc : a.cur ≠ "GBP") (hz : a.amt ≠ 0)
    (hr : c.get (a.cur, d.y, d.m) = none) : toGbpAmt c d a = .error ⟨a.cur, d.y, d.m⟩ := by
  simp [toGbpAmt, hc, hz, hr]

theorem checkRows_eq (rows : List (String × Rat)) :
    checkRows rows = (rows.find? (fun r => decide (r.2 ≤ 0))).map (·.1) := by
  induction rows with
  | nil => rfl
  | cons x xs ih =>
    simp only [checkRows, List.find?_cons, ih]
    by_cases h : x.2 ≤ 0 <;> simp [h]

end Cgt
