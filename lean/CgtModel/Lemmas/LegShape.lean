import CgtModel.Lemmas.Lookahead
/-! The one fact about single legs: every leg of a run is `mkLeg` applied to the SELL line it matches, on
    the day of that line, under one of three (rule, acquisition day) pairs. What is known of a leg's
    date, rule, acquisition day, window and proceeds is read off that. -/
namespace Cgt

/-- the legs `process_sell` can emit for SELL line `s` of day `d` followed by the days `future` -/
inductive LegFrom (w : Int) (d : Day) (future : List Day) (s : Trade) : Leg → Prop
  | sameDay (m c : Rat) : LegFrom w d future s (mkLeg d.date .sameDay m c s (some d.date))
  | bnb (e : Day) (he : e ∈ future) (hw : e.ord - d.ord ≤ w) (m c : Rat) :
      LegFrom w d future s (mkLeg d.date .bedAndBreakfast m c s (some e.date))
  | pool (m c : Rat) : LegFrom w d future s (mkLeg d.date .section104 m c s none)

theorem LegFrom.sellDate {w : Int} {d : Day} {future : List Day} {s : Trade} {l : Leg}
    (h : LegFrom w d future s l) : l.sellDate = d.date := by cases h <;> rfl

theorem lookahead_legs (w : Int) (d0 : Date) (s : Trade) (rem k : Rat) (fs : List Day) (cl : List Rat) :
    ∀ l ∈ (lookahead w d0 s rem k fs cl).2.1, ∃ e ∈ fs, e.ord - d0.ord ≤ w ∧
      ∃ m c, l = mkLeg d0 .bedAndBreakfast m c s (some e.date) := by
  induction rem, k, fs, cl using lookahead_induction w d0 s with
  | stop =>
    intro l hl
    cases hl
  | skip rem k e rest cl _ _ _ r _ ih =>
    intro l hl
    have ⟨e', he', h⟩ := ih l hl
    exact ⟨e', List.mem_cons_of_mem _ he', h⟩
  | take rem k e rest cl b _ hwin _ _ ms _ r _ ih =>
    intro l hl
    rcases List.mem_cons.mp hl with rfl | hl
    · exact ⟨e, List.mem_cons_self, hwin, _, _, rfl⟩
    · have ⟨e', he', h⟩ := ih l hl
      exact ⟨e', List.mem_cons_of_mem _ he', h⟩

theorem sellStep_legs {t : String} {w : Int} {d : Day} {st : MState} {s : Trade} {future : List Day}
    {cl : List Rat} {st' : MState} {cl' : List Rat} {legs : List Leg}
    (h : sellStep t w d st s future cl = .ok (st', cl', legs)) : ∀ l ∈ legs, LegFrom w d future s l := by
  obtain ⟨sd, la, p3, hsd, hla, hp3, -, -, -, -, rfl⟩ := sellStep_ok h
  intro l hl
  rcases List.mem_append.mp hl with hl | hl
  · rcases List.mem_append.mp hl with hl | hl
    · rcases sameDayPart_cases d st.avail s with ⟨e, -⟩ | ⟨b, -, -, -, e⟩ <;> rw [hsd, e] at hl
      · cases hl
      · cases List.mem_singleton.mp hl
        exact .sameDay ..
    · rw [hla] at hl
      obtain ⟨e, he, hw, m, c, rfl⟩ := lookahead_legs _ _ _ _ _ _ _ l hl
      exact .bnb e he hw m c
  · rcases poolPart_cases d st.pool la.2.2 s with ⟨e, -⟩ | ⟨p, -, -, -, -, -, e⟩ <;> rw [hp3, e] at hl
    · cases hl
    · cases List.mem_singleton.mp hl
      exact .pool ..

theorem sellsStep_legs {t : String} {w : Int} {d : Day} {future : List Day} {st : MState} {ss : List Trade}
    {cl : List Rat} {st' : MState} {cl' : List Rat} {legs : List Leg}
    (h : sellsStep t w d future st ss cl = .ok (st', cl', legs)) :
    ∀ l ∈ legs, ∃ s ∈ ss, LegFrom w d future s l := by
  induction h using sellsStep_induction with
  | nil =>
    intro l hl
    cases hl
  | cons st cl s ss st1 cl1 legs1 st2 cl2 legs2 h1 _ ih =>
    intro l hl
    rcases List.mem_append.mp hl with hl | hl
    · exact ⟨s, List.mem_cons_self, sellStep_legs h1 l hl⟩
    · have ⟨s', hs', h⟩ := ih l hl
      exact ⟨s', List.mem_cons_of_mem _ hs', h⟩

theorem runDays_legs {t : String} {w : Int} {ds : List Day} {pool : Option Pool} {cl : List Rat}
    {pool' : Option Pool} {legs : List Leg} (h : runDays t w pool ds cl = .ok (pool', legs)) :
    ∀ l ∈ legs, ∃ d post, d :: post <:+ ds ∧ ∃ s ∈ d.sells, LegFrom w d post s l := by
  induction h using runDays_induction with
  | nil =>
    intro l hl
    cases hl
  | cons d ds pool cl pool1 cl1 legs1 pool2 legs2 h1 _ ih =>
    intro l hl
    rcases List.mem_append.mp hl with hl | hl
    · obtain ⟨_, _, _, hsells, _⟩ := dayStep_ok h1
      exact ⟨d, ds, List.suffix_refl _, sellsStep_legs hsells l hl⟩
    · have ⟨d', post, hsuf, h⟩ := ih l hl
      exact ⟨d', post, hsuf.trans (List.suffix_cons d ds), h⟩

theorem LegFrom.of_setOffsets {w : Int} {d : Day} {x : Rat} {f : Day → Rat} {post : List Day} {s : Trade}
    {l : Leg} (h : LegFrom w { d with offset := x } (C02.setOffsets f post) s l) : LegFrom w d post s l := by
  cases h with
  | sameDay m c => exact .sameDay (d := d) m c
  | bnb e he hw m c =>
    obtain ⟨e0, he0, rfl⟩ := List.mem_map.mp he
    exact .bnb (d := d) e0 he0 hw m c
  | pool m c => exact .pool (d := d) m c

theorem runTicker_legs {t : String} {w : Int} {ds : List Day} {pool : Option Pool} {legs : List Leg}
    (h : runTicker t w ds = .ok (pool, legs)) :
    ∀ l ∈ legs, ∃ d post, d :: post <:+ ds ∧ ∃ s ∈ d.sells, LegFrom w d post s l := by
  obtain ⟨lots, -, h⟩ := runTicker_ok h
  intro l hl
  obtain ⟨d', post', hsuf, s, hs, hfrom⟩ := runDays_legs h l hl
  obtain ⟨ys, hys, e⟩ := List.suffix_map_iff.mp hsuf
  obtain ⟨d, post, rfl, rfl, rfl⟩ := List.map_eq_cons_iff.mp e.symm
  exact ⟨d, post, hys, s, hs, hfrom.of_setOffsets⟩

/-- C01's window clause, as a bound on the legs that exist: a Same-Day leg is acquired on `d0`, a pool leg has
    no acquisition day, a 30-day leg's lies in (`d0`, `d0 + w`]. That a purchase on `d0 + w` *is* used is not
    here (`C01_edge_day_is_used`) -/
def LegWin (w : Int) (d0 : Date) (l : Leg) : Prop :=
  l.sellDate = d0 ∧
  (l.rule = .sameDay → l.acq = some d0) ∧
  (l.rule = .section104 → l.acq = none) ∧
  (l.rule = .bedAndBreakfast → ∃ a, l.acq = some a ∧ d0.ord < a.ord ∧ a.ord - d0.ord ≤ w)

theorem LegFrom.legWin {w : Int} {d : Day} {future : List Day} {s : Trade} {l : Leg}
    (h : LegFrom w d future s l) (hlater : ∀ e ∈ future, d.ord < e.ord) : LegWin w d.date l := by
  cases h with
  | sameDay => exact ⟨rfl, fun _ => rfl, nofun, nofun⟩
  | bnb e he hw => exact ⟨rfl, nofun, nofun, fun _ => ⟨e.date, rfl, hlater e he, hw⟩⟩
  | pool => exact ⟨rfl, nofun, fun _ => rfl, nofun⟩

theorem LegFrom.legWin_of_suffix {w : Int} {d : Day} {post ds : List Day} {s : Trade} {l : Leg}
    (h : LegFrom w d post s l) (hsuf : d :: post <:+ ds) (hs : ds.Pairwise (fun a b => a.ord < b.ord)) :
    ∃ d ∈ ds, LegWin w d.date l :=
  ⟨d, hsuf.subset List.mem_cons_self, h.legWin (List.pairwise_cons.mp (hs.sublist hsuf.sublist)).1⟩

theorem runDays_legwin {t : String} {w : Int} {ds : List Day} (hs : ds.Pairwise (fun a b => a.ord < b.ord))
    {pool pool' : Option Pool} {cl : List Rat} {legs : List Leg}
    (h : runDays t w pool ds cl = .ok (pool', legs)) : ∀ l ∈ legs, ∃ d ∈ ds, LegWin w d.date l := fun l hl =>
  have ⟨_, _, hsuf, _, _, hfrom⟩ := runDays_legs h l hl
  hfrom.legWin_of_suffix hsuf hs

/-- C04's per-leg clause: gross and net proceeds are the SELL line's in proportion to the leg's quantity
    (`proceeds`), the gain is net less cost -/
def LegOf (s : Trade) (l : Leg) : Prop :=
  l.gross = (proceeds l.qty s).1 ∧ l.net = (proceeds l.qty s).2 ∧ l.gain = l.net - l.cost

theorem LegFrom.legOf {w : Int} {d : Day} {future : List Day} {s : Trade} {l : Leg}
    (h : LegFrom w d future s l) : LegOf s l := by cases h <;> exact ⟨rfl, rfl, rfl⟩

theorem legs_sums (s : Trade) (hq : s.q ≠ 0) (ls : List Leg) (h : ∀ l ∈ ls, LegOf s l) :
    legGross ls = legQty ls * s.p ∧ legNet ls = legQty ls * s.p - s.f * (legQty ls / s.q) ∧
      legGain ls = legNet ls - legCost ls := by
  induction ls with
  | nil =>
    simp [legGross, legNet, legGain, legCost, legQty]
    grind
  | cons l ls ih =>
    have hl := h l (by simp)
    have ih' := ih (fun x hx => h x (by simp [hx]))
    obtain ⟨g, n, gn⟩ := hl
    simp only [proceeds, hq, if_false] at g n
    simp only [legGross, legNet, legGain, legCost, legQty, List.map_cons, rsum_cons] at ih' ⊢
    refine ⟨by grind, by grind, by grind⟩

end Cgt
