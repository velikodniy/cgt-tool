import CgtModel.Calendar
/-! The ordinal of a civil date is strictly monotone in the lexicographic order of (y, m, d) on
    valid dates — so "between 6 April Y and 5 April Y+1" can be read either way.

    `daysFromCivil` counts in years that begin on 1 March: the ordinal is *days before the March-year
    + days before the month + day* (`ord_eq`). The order of dates is the lexicographic order of
    (March-year, month counted from March, day), and a date lies before the start of the next month
    and of the next March-year, so the sum is strictly monotone. -/
namespace Cgt

def marchYear (y m : Int) : Int := if m ≤ 2 then y - 1 else y
def marchMonth (m : Int) : Int := (m + 9) % 12

/-- days before month `p` (0 = March) of a March-based year -/
def monthStart (p : Int) : Int := (153 * p + 2) / 5

/-- days before the March-based civil year `y'` -/
def yearStart (y' : Int) : Int :=
  let era := (if y' ≥ 0 then y' else y' - 399) / 400
  let yoe := y' - era * 400
  era * 146097 + yoe * 365 + yoe / 4 - yoe / 100

theorem ord_eq (t : Date) :
    t.ord = yearStart (marchYear t.y t.m) + monthStart (marchMonth t.m) + t.d - 306 := by
  unfold Date.ord daysFromCivil yearStart marchYear monthStart marchMonth
  simp only
  split <;> split <;> omega

/-- `isLeap` as a proposition, so that `omega` can use it -/
def leapP (y : Int) : Prop := (y % 4 = 0 ∧ y % 100 ≠ 0) ∨ y % 400 = 0

theorem yearStart_eq {y : Int} (h : 0 ≤ y) : yearStart y = 365 * y + y / 4 - y / 100 + y / 400 := by
  unfold yearStart
  have : y ≥ 0 := h
  simp only [this, if_true]
  omega

theorem yearStart_succ {y : Int} (h : 0 ≤ y) :
    yearStart y + 365 ≤ yearStart (y + 1) ∧
      (leapP (y + 1) → yearStart y + 366 ≤ yearStart (y + 1)) := by
  rw [yearStart_eq h, yearStart_eq (by omega : 0 ≤ y + 1)]
  unfold leapP
  omega

theorem yearStart_mono {a b : Int} (h0 : 0 ≤ a) (h : a ≤ b) : yearStart a ≤ yearStart b := by
  obtain ⟨n, rfl⟩ := Int.le.dest h
  induction n with
  | zero => simp
  | succ k ih =>
    have := (yearStart_succ (y := a + k) (by omega)).1
    have := ih (by omega)
    rw [show a + ((k + 1 : Nat) : Int) = a + k + 1 by omega]
    omega

theorem monthStart_mono {p q : Int} (h : p ≤ q) : monthStart p ≤ monthStart q := by
  unfold monthStart; omega

/-- what `(153 * p + 2) / 5` encodes: a month counted from March has 30 days when its number is 1 or 3
    modulo 5 (April, June, September, November among the first eleven) and 31 otherwise -/
theorem monthStart_succ (p : Int) :
    monthStart p + 30 ≤ monthStart (p + 1) ∧
      (p % 5 = 1 ∨ p % 5 = 3 ∨ monthStart p + 31 ≤ monthStart (p + 1)) := by
  unfold monthStart
  omega

/-- `Date.valid` as arithmetic. `1 ≤ t.y` is no rule of the calendar: it keeps the March-based year
    non-negative, where `yearStart_eq` holds -/
def Date.ok (t : Date) : Prop :=
  1 ≤ t.y ∧ 1 ≤ t.m ∧ t.m ≤ 12 ∧ 1 ≤ t.d ∧ t.d ≤ 31 ∧
    (t.m = 4 ∨ t.m = 6 ∨ t.m = 9 ∨ t.m = 11 → t.d ≤ 30) ∧ (t.m = 2 → t.d ≤ 29) ∧
    (t.m = 2 → ¬ leapP t.y → t.d ≤ 28)

theorem Date.ok_of_valid (t : Date) (hy : 1 ≤ t.y) (h : t.valid = true) : t.ok := by
  unfold Date.valid daysInMonth isLeap at h
  unfold Date.ok leapP
  simp only [decide_eq_true_eq, Bool.decide_and, Bool.decide_or, Bool.and_eq_true, Bool.or_eq_true] at h
  obtain ⟨h1, h2, h3, h4⟩ := h
  split at h4 <;> split at h4 <;> omega

theorem day_lt_nextMonth {t : Date} (h : t.ok) (hm : t.m ≠ 2) :
    monthStart (marchMonth t.m) + t.d ≤ monthStart (marchMonth t.m + 1) := by
  obtain ⟨-, h1, h2, -, h4, h5, -, -⟩ := h
  have := monthStart_succ (marchMonth t.m)
  have hp : 0 ≤ marchMonth t.m ∧ marchMonth t.m ≤ 11 ∧
      (t.m = marchMonth t.m + 3 ∨ t.m = marchMonth t.m - 9) := by
    unfold marchMonth
    omega
  generalize marchMonth t.m = p at *
  omega

theorem day_lt_nextYear {t : Date} (h : t.ok) :
    yearStart (marchYear t.y t.m) + monthStart (marchMonth t.m) + t.d
      ≤ yearStart (marchYear t.y t.m + 1) := by
  have hy : 0 ≤ marchYear t.y t.m := by
    have := h.1
    unfold marchYear
    split <;> omega
  have hs := yearStart_succ hy
  by_cases hm : t.m = 2
  · -- February is the March-based year's last month, and its 29th day exists only when the year is a day longer
    obtain ⟨-, -, -, -, -, -, h6, h7⟩ := h
    have hl : marchYear t.y t.m + 1 = t.y := by unfold marchYear; omega
    have h11 : monthStart (marchMonth t.m) = 337 := by rw [hm]; rfl
    rw [hl] at hs ⊢
    by_cases hleap : leapP t.y
    · have := hs.2 hleap
      have := h6 hm
      omega
    · have := h7 hm hleap
      omega
  · have h1 := day_lt_nextMonth h hm
    have h2 : monthStart (marchMonth t.m + 1) ≤ monthStart 11 := by
      have := h.2.1
      have := h.2.2.1
      apply monthStart_mono
      unfold marchMonth
      omega
    have : monthStart 11 = 337 := rfl
    omega

def Date.lt (a b : Date) : Prop :=
  a.y < b.y ∨ (a.y = b.y ∧ (a.m < b.m ∨ (a.m = b.m ∧ a.d < b.d)))

theorem ord_lt_of_lt (a b : Date) (ha : a.ok) (hb : b.ok) (hlt : a.lt b) : a.ord < b.ord := by
  rw [ord_eq, ord_eq]
  have ha1 := ha.2.1
  have ha2 := ha.2.2.1
  have hb1 := hb.2.1
  have hb2 := hb.2.2.1
  have hbd := hb.2.2.2.1
  have key : marchYear a.y a.m < marchYear b.y b.m ∨ marchYear a.y a.m = marchYear b.y b.m ∧
      (marchMonth a.m < marchMonth b.m ∨ a.m = b.m ∧ a.d < b.d) := by
    unfold Date.lt at hlt; unfold marchYear marchMonth
    split <;> split <;> omega
  rcases key with hy | ⟨hy, hm | ⟨hm, hd⟩⟩
  · have h0 : 0 ≤ marchYear a.y a.m + 1 := by
      have := ha.1
      unfold marchYear
      split <;> omega
    have := yearStart_mono h0 (show marchYear a.y a.m + 1 ≤ marchYear b.y b.m by omega)
    have := day_lt_nextYear ha
    have : 0 ≤ monthStart (marchMonth b.m) := by unfold monthStart marchMonth; omega
    omega
  · have ham : a.m ≠ 2 := by unfold marchMonth at hm; omega
    have := day_lt_nextMonth ha ham
    have := monthStart_mono (show marchMonth a.m + 1 ≤ marchMonth b.m by omega)
    rw [hy]; omega
  · rw [hy, hm]; omega

theorem Date.lt_trichotomy (a b : Date) : a.lt b ∨ a = b ∨ b.lt a := by
  unfold Date.lt
  cases a; cases b
  simp only [Date.mk.injEq]
  omega

theorem ord_inj (a b : Date) (ha : a.ok) (hb : b.ok) (h : a.ord = b.ord) : a = b := by
  rcases Date.lt_trichotomy a b with hlt | heq | hgt
  · have := ord_lt_of_lt a b ha hb hlt; omega
  · exact heq
  · have := ord_lt_of_lt b a hb ha hgt; omega

theorem ord_le_iff (a b : Date) (ha : a.ok) (hb : b.ok) : a.ord ≤ b.ord ↔ a.le b := by
  unfold Date.le
  rcases Date.lt_trichotomy a b with h | rfl | h
  · have := ord_lt_of_lt a b ha hb h; unfold Date.lt at h; omega
  · omega
  · have := ord_lt_of_lt b a hb ha h; unfold Date.lt at h; omega

end Cgt
