import CgtModel.Lemmas.Spec
/-! Units are a gauge: counting the shares of day `i` in units `g i` times finer (quantities × g i, split
    factors × g (i+1) / g i, money untouched) changes no cost, no proceeds, no gain and no rule. -/
namespace Cgt.Spec
open Cgt

def gaugeDay (g : Nat → Rat) (i : Nat) (d : SDay) : SDay :=
  { d with B := d.B * g i, S := d.S * g i, r := d.r * g (i + 1) / g i }

def regauge (g : Nat → Rat) : Nat → List SDay → List SDay
  | _, [] => []
  | i, d :: rest => gaugeDay g i d :: regauge g (i + 1) rest

def gaugeClaim (g : Nat → Rat) (c : Claim) : Claim := { c with x := c.x * g c.i, xk := c.xk * g c.j }

theorem sameDay_gauge (g : Nat → Rat) (i : Nat) (d : SDay) (hg : 0 < g i) :
    sameDay (gaugeDay g i d) = sameDay d * g i := by
  simp only [sameDay, gaugeDay]; exact min_mul_pos hg

theorem claimedOn_gauge (g : Nat → Rat) (cs : List Claim) (j : Nat) :
    claimedOn (cs.map (gaugeClaim g)) j = claimedOn cs j * g j := by
  induction cs with
  | nil => exact (Rat.zero_mul _).symm
  | cons c cs ih =>
    rw [List.map_cons, claimedOn_cons, claimedOn_cons, ih]
    show (if c.j = j then c.xk * g c.j else 0) + _ = _
    split
    · rename_i h; rw [h]; grind
    · grind

theorem ite_gauge {α : Type} {a g : Rat} (hg : 0 < g) (x y : α) :
    (if a * g > 0 then x else y) = if a > 0 then x else y :=
  ite_congr (propext (Rat.mul_pos_iff_of_pos_right hg)) (fun _ => rfl) (fun _ => rfl)

def GPos (g : Nat → Rat) : Prop := ∀ i, 0 < g i

theorem div_gauge {free k gi gj : Rat} (hi : 0 < gi) (hj : 0 < gj) :
    free * gj / (k * gj / gi) = free / k * gi := by
  have hgi : gi ≠ 0 := by grind
  by_cases hk : k = 0
  · subst hk; simp [Rat.div_def, Rat.zero_mul, Rat.mul_zero]
  · simp only [Rat.div_def]
    rw [Rat.inv_mul_rev, Rat.inv_mul_rev, Rat.inv_inv]
    have hcancel : gj * gj⁻¹ = 1 := Rat.mul_inv_cancel _ (by grind)
    grind

theorem factor_gauge {k r gi gj gj1 : Rat} (hj : 0 < gj) : k * gj / gi * (r * gj1 / gj) = k * r * gj1 / gi := by
  have hcancel : gj * gj⁻¹ = 1 := Rat.mul_inv_cancel _ (by grind)
  simp only [Rat.div_def]; grind

theorem free_gauge (g : Nat → Rat) (cs : List Claim) (j : Nat) (e : SDay) (hj : 0 < g j) :
    free (cs.map (gaugeClaim g)) j (gaugeDay g j e) = free cs j e * g j := by
  unfold free
  rw [sameDay_gauge g j e hj, claimedOn_gauge]
  show e.B * g j - _ - _ = _
  grind

theorem gaugeClaim_take (g : Nat → Rat) (i j : Nat) (x k : Rat) (hi : 0 < g i) :
    (⟨i, j, x * g i, x * g i * (k * g j / g i)⟩ : Claim) = gaugeClaim g ⟨i, j, x, x * k⟩ := by
  have hcancel : g i * (g i)⁻¹ = 1 := Rat.mul_inv_cancel _ (by grind)
  simp only [gaugeClaim, Rat.div_def, Claim.mk.injEq, true_and]
  grind

/-- `rem` is in day-`i` units (× `g i`); `k` converts day-`i` units into day-`j` units (× `g j / g i`); a claim's `x`
    and `xk` are in day-`i` and day-`j` units (`gaugeClaim`) -/
theorem row_gauge (g : Nat → Rat) (hg : GPos g) (w : Int) (i : Nat) (di : Date) (cs : List Claim) :
    ∀ (rest : List SDay) (j : Nat) (rem k : Rat),
      row w i di (cs.map (gaugeClaim g)) j (rem * g i) (k * g j / g i) (regauge g j rest)
        = (row w i di cs j rem k rest).map (gaugeClaim g) := by
  intro rest
  induction rest with
  | nil => intro j rem k; rfl
  | cons e rest ih =>
    intro j rem k
    have hi := hg i
    have hj := hg j
    have hrem := mul_nonpos_iff_of_pos (a := rem) hi
    have hk : k * g j / g i * (gaugeDay g j e).r = k * e.r * g (j + 1) / g i := factor_gauge hj
    rw [regauge]
    by_cases hstop : rem ≤ 0 ∨ e.date.ord - di.ord > w
    · rw [row_stop hstop, row_stop (e := gaugeDay g j e) (hstop.imp hrem.mpr id)]; rfl
    · rw [not_or] at hstop
      have h1 : ¬ rem * g i ≤ 0 := fun h => hstop.1 (hrem.mp h)
      have hfg := free_gauge g cs j e hj
      by_cases hfree : free cs j e > 0
      · rw [row_take hstop.1 hstop.2 hfree,
          row_take (e := gaugeDay g j e) h1 hstop.2 (by rw [hfg]; exact Rat.mul_pos hfree hj),
          hfg, hk, div_gauge hi hj, min_mul_pos hi, rat_sub_mul, ih, List.map_cons,
          gaugeClaim_take g i j _ k hi]
      · rw [row_skip hstop.1 hstop.2 hfree,
          row_skip (e := gaugeDay g j e) h1 hstop.2 (by rw [hfg]; exact fun h => hfree ((Rat.mul_pos_iff_of_pos_right hj).mp h)),
          hk, ih]

theorem rowOf_gauge (g : Nat → Rat) (hg : GPos g) (w : Int) (i : Nat) (cs : List Claim) (d : SDay) (rest : List SDay) :
    rowOf w i (cs.map (gaugeClaim g)) (gaugeDay g i d) (regauge g (i + 1) rest)
      = (rowOf w i cs d rest).map (gaugeClaim g) := by
  have hi := hg i
  unfold rowOf
  rw [apply_ite (List.map (gaugeClaim g)), ← row_gauge g hg w i d.date cs rest (i + 1) (d.S - sameDay d) d.r,
    ← rat_sub_mul, ← sameDay_gauge g i d hi]
  exact ite_gauge hi _ _

theorem claims_gauge (g : Nat → Rat) (hg : GPos g) (w : Int) :
    ∀ (tbl : List SDay) (i : Nat) (cs : List Claim),
      claims w i (cs.map (gaugeClaim g)) (regauge g i tbl) = (claims w i cs tbl).map (gaugeClaim g) := by
  intro tbl
  induction tbl with
  | nil => intro i cs; rfl
  | cons d rest ih =>
    intro i cs
    rw [regauge, claims_cons, claims_cons, rowOf_gauge g hg, ← List.map_append]
    exact ih (i + 1) _

/-- what C10 compares of a leg and of a disposal: everything but the share counts -/
def legMoney (l : SLeg) : Rule × Rat × Option Date := (l.rule, l.cost, l.acq)
def dispMoney (d : SDisposal) : Date × Rat × Rat × Rat × List (Rule × Rat × Option Date) :=
  (d.date, d.gross, d.net, d.gain, d.legs.map legMoney)

theorem unitCost_gauge (g : Nat → Rat) (i : Nat) (d : SDay) (hi : 0 < g i) :
    unitCost (gaugeDay g i d) = unitCost d / g i := by
  have hne : g i ≠ 0 := by grind
  simp only [unitCost, gaugeDay]
  by_cases hB : d.B = 0
  · simp [hB, Rat.zero_mul, Rat.div_def]
  · have : d.B * g i ≠ 0 := by
      intro h; rcases Rat.mul_eq_zero.mp h with h | h <;> contradiction
    simp only [hB, this, if_false, Rat.div_def, Rat.inv_mul_rev]
    grind

theorem regauge_getElem? (g : Nat → Rat) : ∀ (tbl : List SDay) (i j : Nat),
    (regauge g i tbl)[j]? = (tbl[j]?).map (gaugeDay g (i + j)) := by
  intro tbl
  induction tbl with
  | nil => intro i j; simp [regauge]
  | cons d rest ih =>
    intro i j
    cases j with
    | zero => simp [regauge]
    | succ j => simp only [regauge, List.getElem?_cons_succ, ih]; congr 2; omega

theorem dayAt_gauge (g : Nat → Rat) (hg : GPos g) (tbl : List SDay) (j : Nat) :
    unitCost (dayAt (regauge g 0 tbl) j) = unitCost (dayAt tbl j) / g j ∧
    (dayAt (regauge g 0 tbl) j).date = (dayAt tbl j).date := by
  unfold dayAt
  rw [List.getD_eq_getElem?_getD, List.getD_eq_getElem?_getD, regauge_getElem?]
  cases h : tbl[j]? with
  | none => simp [unitCost, Rat.div_def, Rat.zero_mul]
  | some d =>
    simp only [Option.map_some, Option.getD_some, Nat.zero_add]
    exact ⟨unitCost_gauge g j d (hg j), rfl⟩

theorem mul_div_gauge {x u gi : Rat} (hi : 0 < gi) : x * gi * (u / gi) = x * u := by
  have hcancel : gi * gi⁻¹ = 1 := Rat.mul_inv_cancel _ (by grind)
  simp only [Rat.div_def]; grind

theorem poolCost_gauge {pq pc x gi : Rat} (hi : 0 < gi) : poolCost (pq * gi) pc (x * gi) = poolCost pq pc x := by
  have hne : gi ≠ 0 := by grind
  unfold poolCost
  by_cases hq : pq = 0
  · simp [hq, Rat.zero_mul]
  · have : pq * gi ≠ 0 := by
      intro h; rcases Rat.mul_eq_zero.mp h with h | h <;> contradiction
    simp only [hq, this, if_false, Rat.div_def, Rat.inv_mul_rev]
    grind

theorem poolTake_gauge {pq pc x gi : Rat} (hi : 0 < gi) :
    poolTake (pq * gi) pc (x * gi) = ((poolTake pq pc x).1 * gi, (poolTake pq pc x).2) := by
  unfold poolTake
  rw [poolCost_gauge hi, ite_gauge hi, ite_gauge hi]
  split <;> simp only [Prod.mk.injEq, and_true] <;> grind

theorem fromPool_gauge (g : Nat → Rat) (i : Nat) (d : SDay) (hi : 0 < g i) (mine : List Claim)
    (hmine : ∀ c ∈ mine, c.i = i) :
    fromPool (gaugeDay g i d) (mine.map (gaugeClaim g)) = fromPool d mine * g i := by
  have : (mine.map (gaugeClaim g)).map (·.x) = (mine.map (·.x)).map (· * g i) := by
    rw [List.map_map, List.map_map]
    exact List.map_congr_left fun c hc => by simp only [Function.comp, gaugeClaim, hmine c hc]
  unfold fromPool
  rw [this, rsum_map_mul, sameDay_gauge g i d hi]
  show d.S * g i - _ - _ = _
  rw [rat_sub_mul, rat_sub_mul]

theorem dayLegs_gauge (g : Nat → Rat) (hg : GPos g) (tbl : List SDay) (i : Nat) (mine : List Claim)
    (hmine : ∀ c ∈ mine, c.i = i) (pq pc : Rat) (d : SDay) :
    (dayLegs (regauge g 0 tbl) (mine.map (gaugeClaim g)) (pq * g i) pc (gaugeDay g i d)).map legMoney
      = (dayLegs tbl mine pq pc d).map legMoney := by
  have hi := hg i
  unfold dayLegs
  rw [fromPool_gauge g i d hi mine hmine, sameDay_gauge g i d hi, unitCost_gauge g i d hi, poolCost_gauge hi,
    ite_gauge hi, ite_gauge hi]
  simp only [List.map_append, List.map_map, apply_ite (List.map legMoney), List.map_cons, List.map_nil]
  congr 2
  · simp only [legMoney, mul_div_gauge hi]
    rfl
  · apply List.map_congr_left
    intro c _
    have hd := dayAt_gauge g hg tbl c.j
    simp only [Function.comp, legMoney, gaugeClaim, hd.1, hd.2, mul_div_gauge (hg c.j)]

theorem rsum_cost_of_legMoney {l1 l2 : List SLeg} (h : l1.map legMoney = l2.map legMoney) :
    rsum (l1.map (·.cost)) = rsum (l2.map (·.cost)) := by
  have := congrArg (List.map (fun v : Rule × Rat × Option Date => v.2.1)) h
  rw [List.map_map, List.map_map] at this
  exact congrArg rsum this

theorem dayOut_gauge (g : Nat → Rat) (hg : GPos g) (tbl : List SDay) (i : Nat) (mine : List Claim)
    (hmine : ∀ c ∈ mine, c.i = i) (cl pq pc : Rat) (d : SDay) :
    let a := dayOut (regauge g 0 tbl) (mine.map (gaugeClaim g)) (cl * g i) (pq * g i) pc (gaugeDay g i d)
    let b := dayOut tbl mine cl pq pc d
    a.1.map dispMoney = b.1.map dispMoney ∧ a.2.1 = b.2.1 * g (i + 1) ∧ a.2.2 = b.2.2 := by
  have hi := hg i
  have hcancel : g i * (g i)⁻¹ = 1 := Rat.mul_inv_cancel _ (by grind)
  have hlegs := dayLegs_gauge g hg tbl i mine hmine pq pc d
  unfold dayOut
  dsimp only
  rw [fromPool_gauge g i d hi mine hmine, sameDay_gauge g i d hi, unitCost_gauge g i d hi, poolTake_gauge hi,
    rsum_cost_of_legMoney hlegs, show (gaugeDay g i d).S = d.S * g i from rfl, ite_gauge hi]
  refine ⟨?_, ?_, ?_⟩
  · simp only [apply_ite (List.map dispMoney), List.map_cons, List.map_nil, dispMoney, hlegs]
    rfl
  · show (_ + (d.B * g i - _ - _)) * (d.r * g (i + 1) / g i) = _
    simp only [Rat.div_def]
    grind
  · show _ + (d.B * g i - _ - _) * _ = _
    simp only [Rat.div_def]
    grind

theorem filter_gauge (g : Nat → Rat) (cs : List Claim) (i : Nat) :
    (cs.map (gaugeClaim g)).filter (fun c => c.i = i) = (cs.filter (fun c => c.i = i)).map (gaugeClaim g) := by
  rw [List.filter_map]; rfl

theorem walk_gauge (g : Nat → Rat) (hg : GPos g) (tbl : List SDay) (cs : List Claim) :
    ∀ (rest : List SDay) (i : Nat) (pq pc : Rat),
      let a := walk (regauge g 0 tbl) (cs.map (gaugeClaim g)) i (pq * g i) pc (regauge g i rest)
      let b := walk tbl cs i pq pc rest
      a.1.map dispMoney = b.1.map dispMoney ∧ a.2.1 = b.2.1 * g (i + rest.length) ∧ a.2.2 = b.2.2 := by
  intro rest
  induction rest with
  | nil => intro i pq pc; simp [walk, regauge]
  | cons d rest ih =>
    intro i pq pc
    simp only [regauge]
    rw [walk_cons, walk_cons, filter_gauge, claimedOn_gauge]
    have hm : ∀ c ∈ cs.filter (fun c => c.i = i), c.i = i := by
      intro c hc; simpa using (List.mem_filter.mp hc).2
    obtain ⟨h1, h2, h3⟩ := dayOut_gauge g hg tbl i (cs.filter (fun c => c.i = i)) hm (claimedOn cs i) pq pc d
    simp only at h1 h2 h3 ⊢
    rw [h2, h3]
    obtain ⟨k1, k2, k3⟩ := ih (i + 1) (dayOut tbl (cs.filter (fun c => c.i = i)) (claimedOn cs i) pq pc d).2.1
      (dayOut tbl (cs.filter (fun c => c.i = i)) (claimedOn cs i) pq pc d).2.2
    refine ⟨?_, ?_, k3⟩
    · rw [List.map_append, List.map_append, h1, k1]
    · rw [k2]; congr 2; simp only [List.length_cons]; omega

/-- the closing quantity comes out in the unit after the last day, `g tbl.length` -/
theorem identifyTbl_gauge (g : Nat → Rat) (hg : GPos g) (w : Int) (tbl : List SDay) :
    let a := identifyTbl w (regauge g 0 tbl)
    let b := identifyTbl w tbl
    a.1.map dispMoney = b.1.map dispMoney ∧ a.2.1 = b.2.1 * g tbl.length ∧ a.2.2 = b.2.2 := by
  simp only [identifyTbl]
  have hc := claims_gauge g hg w tbl 0 []
  simp only [List.map_nil] at hc
  rw [hc]
  have := walk_gauge g hg tbl (claims w 0 [] tbl) tbl 0 0 0
  simp only [Rat.zero_mul, Nat.zero_add] at this
  exact this

end Cgt.Spec
