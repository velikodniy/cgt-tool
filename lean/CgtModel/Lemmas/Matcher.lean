import CgtModel.Matcher
/-! What each function of `Matcher.lean` does on each form of input: the three outcomes of a look-ahead
    step (stop / skip / take) with the induction principle that goes with them, the two outcomes of
    `sameDayPart` and of `poolPart`, and what an accepted `sellStep`, `sellsStep`, `dayStep`, `runDays`,
    `runTicker` consists of; `outK` on no claims and at the head of a run. Also defined here, because every
    file below speaks in them: `farFrom` (the look-ahead's stopping condition), `C02.setOffsets` (the day list
    as the main pass sees it after the cost pre-pass) and the sums over legs `legQty` … `legCost`. -/
namespace Cgt

theorem Day.B_none {d : Day} (h : d.buy = none) : d.B = 0 := by simp [Day.B, h]
theorem Day.B_some {d : Day} {b : Trade} (h : d.buy = some b) : d.B = b.q := by simp [Day.B, h]

/-- asks only the first day of `es`: the look-ahead stops at the first day beyond the window and never sees
    the rest (on a date-ordered list the rest is beyond it too) -/
def farFrom (w : Int) (d0 : Date) (es : List Day) : Prop :=
  match es with
  | [] => True
  | e :: _ => e.ord - d0.ord > w

theorem lookahead_stop (w : Int) (d0 : Date) (s : Trade) (rem k : Rat) (fs : List Day) (cl : List Rat)
    (h : rem ≤ 0 ∨ farFrom w d0 fs) : lookahead w d0 s rem k fs cl = (cl, [], rem) := by
  cases fs with
  | nil => rfl
  | cons e rest =>
    simp only [lookahead]
    split
    · rfl
    · exact if_pos (show e.ord - d0.ord > w from h.resolve_left ‹_›)

theorem lookahead_skip (w : Int) (d0 : Date) (s : Trade) (rem k : Rat) (e : Day) (rest : List Day)
    (cl : List Rat) (hrem : 0 < rem) (hwin : e.ord - d0.ord ≤ w)
    (h : e.buy = none ∨ availFor e (cl.headD 0) ≤ 0) :
    lookahead w d0 s rem k (e :: rest) cl =
      (cl.headD 0 :: (lookahead w d0 s rem (k * e.r) rest cl.tail).1,
        (lookahead w d0 s rem (k * e.r) rest cl.tail).2) := by
  have h1 : ¬ rem ≤ 0 := Rat.not_le.mpr hrem
  have h2 : ¬ e.ord - d0.ord > w := Int.not_lt.mpr hwin
  simp only [lookahead, h1, h2, if_false]
  cases hb : e.buy with
  | none => rfl
  | some b => simp only [if_pos (h.resolve_left (by simp [hb]))]

theorem lookahead_take (w : Int) (d0 : Date) (s : Trade) (rem k : Rat) (e : Day) (rest : List Day)
    (cl : List Rat) (b : Trade) (hrem : 0 < rem) (hwin : e.ord - d0.ord ≤ w) (hb : e.buy = some b)
    (ha : 0 < availFor e (cl.headD 0)) :
    lookahead w d0 s rem k (e :: rest) cl =
      (let ms := min rem (availFor e (cl.headD 0) / k)
       let r := lookahead w d0 s (rem - ms) (k * e.r) rest cl.tail
       ((cl.headD 0 + ms * k) :: r.1,
        mkLeg d0 .bedAndBreakfast ms (ms * k * unitCost b e.offset) s (some e.date) :: r.2.1, r.2.2)) := by
  have h1 : ¬ rem ≤ 0 := Rat.not_le.mpr hrem
  have h2 : ¬ e.ord - d0.ord > w := Int.not_lt.mpr hwin
  have h3 : ¬ availFor e (cl.headD 0) ≤ 0 := Rat.not_le.mpr ha
  simp only [lookahead, h1, h2, hb, h3, if_false]

theorem lookahead_induction (w : Int) (d0 : Date) (s : Trade)
    {motive : Rat → Rat → List Day → List Rat → List Rat × List Leg × Rat → Prop}
    (stop : ∀ rem k fs cl, rem ≤ 0 ∨ farFrom w d0 fs → motive rem k fs cl (cl, [], rem))
    (skip : ∀ rem k e rest cl, 0 < rem → e.ord - d0.ord ≤ w →
      e.buy = none ∨ availFor e (cl.headD 0) ≤ 0 →
      ∀ r, r = lookahead w d0 s rem (k * e.r) rest cl.tail → motive rem (k * e.r) rest cl.tail r →
        motive rem k (e :: rest) cl (cl.headD 0 :: r.1, r.2))
    (take : ∀ rem k e rest cl b, 0 < rem → e.ord - d0.ord ≤ w → e.buy = some b →
      0 < availFor e (cl.headD 0) → ∀ ms, ms = min rem (availFor e (cl.headD 0) / k) →
      ∀ r, r = lookahead w d0 s (rem - ms) (k * e.r) rest cl.tail →
        motive (rem - ms) (k * e.r) rest cl.tail r →
        motive rem k (e :: rest) cl ((cl.headD 0 + ms * k) :: r.1,
          mkLeg d0 .bedAndBreakfast ms (ms * k * unitCost b e.offset) s (some e.date) :: r.2.1, r.2.2))
    (rem k : Rat) (fs : List Day) (cl : List Rat) : motive rem k fs cl (lookahead w d0 s rem k fs cl) := by
  induction fs generalizing rem k cl with
  | nil => exact stop rem k [] cl (.inr trivial)
  | cons e rest ih =>
    by_cases hrem : rem ≤ 0
    · exact lookahead_stop w d0 s rem k _ cl (.inl hrem) ▸ stop rem k _ cl (.inl hrem)
    by_cases hwin : farFrom w d0 (e :: rest)
    · exact lookahead_stop w d0 s rem k _ cl (.inr hwin) ▸ stop rem k _ cl (.inr hwin)
    have hrem := Rat.not_le.mp hrem
    have hwin : e.ord - d0.ord ≤ w := Int.not_lt.mp hwin
    by_cases h : e.buy = none ∨ availFor e (cl.headD 0) ≤ 0
    · exact lookahead_skip w d0 s rem k e rest cl hrem hwin h ▸
        skip rem k e rest cl hrem hwin h _ rfl (ih ..)
    · obtain ⟨b, hb⟩ := Option.ne_none_iff_exists'.mp (fun hn => h (.inl hn))
      have ha := Rat.not_le.mp (fun ha => h (.inr ha))
      exact lookahead_take w d0 s rem k e rest cl b hrem hwin hb ha ▸
        take rem k e rest cl b hrem hwin hb ha _ rfl _ rfl (ih ..)

theorem outK_nil : ∀ (k : Rat) (ds : List Day), outK k ds [] = 0
  | _, [] => rfl
  | k, d :: ds => by
    simp only [outK, List.headD_nil, List.tail_nil]
    rw [outK_nil (k * d.r) ds]
    grind

theorem outK_one_cons (d : Day) (ds : List Day) (cl : List Rat) :
    outK 1 (d :: ds) cl = cl.headD 0 + outK d.r ds cl.tail := by
  simp only [outK, Rat.one_mul]
  grind

theorem sameDayPart_cases (d : Day) (a : Rat) (s : Trade) :
    sameDayPart d a s = (0, []) ∧ (d.buy = none ∨ a ≤ 0 ∨ s.q ≤ 0) ∨
    ∃ b, d.buy = some b ∧ 0 < a ∧ 0 < s.q ∧ sameDayPart d a s =
      (min s.q a, [mkLeg d.date .sameDay (min s.q a) (min s.q a * unitCost b d.offset) s (some d.date)]) := by
  unfold sameDayPart
  cases hb : d.buy with
  | none => exact .inl ⟨rfl, .inl rfl⟩
  | some b =>
    by_cases h : a > 0 ∧ s.q > 0
    · exact .inr ⟨b, rfl, h.1, h.2, if_pos h⟩
    · refine .inl ⟨if_neg h, .inr ?_⟩
      by_cases ha : a ≤ 0
      · exact .inl ha
      · exact .inr (Rat.not_lt.mp fun hs => h ⟨Rat.not_le.mp ha, hs⟩)

theorem poolPart_cases (d : Day) (pool : Option Pool) (rem : Rat) (s : Trade) :
    poolPart d pool rem s = (pool, rem, []) ∧
      (rem ≤ 0 ∨ pool = none ∨ s.q = 0 ∨ ∃ p, pool = some p ∧ (p.q = 0 ∨ min rem p.q = 0)) ∨
    ∃ p, pool = some p ∧ 0 < rem ∧ p.q ≠ 0 ∧ s.q ≠ 0 ∧ min rem p.q ≠ 0 ∧ poolPart d pool rem s =
      (some ⟨p.q - min rem p.q, p.c - min rem p.q * (p.c / p.q)⟩, rem - min rem p.q,
        [mkLeg d.date .section104 (min rem p.q) (min rem p.q * (p.c / p.q)) s none]) := by
  unfold poolPart
  by_cases hrem : rem > 0
  · rw [if_pos hrem]
    cases pool with
    | none => exact .inl ⟨rfl, .inr (.inl rfl)⟩
    | some p =>
      by_cases h2 : p.q = 0 ∨ s.q = 0
      · refine .inl ⟨if_pos h2, .inr (.inr ?_)⟩
        rcases h2 with h | h
        · exact .inr ⟨p, rfl, .inl h⟩
        · exact .inl h
      · by_cases h3 : min rem p.q = 0
        · refine .inl ⟨?_, .inr (.inr (.inr ⟨p, rfl, .inr h3⟩))⟩
          simp only [if_neg h2, if_pos h3]
        · refine .inr ⟨p, rfl, hrem, fun h => h2 (.inl h), fun h => h2 (.inr h), h3, ?_⟩
          simp only [if_neg h2, if_neg h3]
  · exact .inl ⟨if_neg hrem, .inl (Rat.not_lt.mp hrem)⟩

/-- `process_sell` without its shortcut for a zero-quantity SELL: the look-ahead of nothing is nothing -/
theorem sellStep_eq (t : String) (w : Int) (d : Day) (st : MState) (s : Trade) (future : List Day)
    (cl : List Rat) :
    sellStep t w d st s future cl =
      if s.q > st.avail + st.poolQ - outK d.r future cl then
        .error ⟨.exceedsHolding, t, d.ord, 1, 1, s.idx⟩
      else
        let sd := sameDayPart d st.avail s
        let la := lookahead w d.date s (s.q - sd.1) d.r future cl
        let p3 := poolPart d st.pool la.2.2 s
        if p3.2.1 > 0 then
          if p3.2.1 = s.q then .error ⟨.noPriorAcquisition, t, d.ord, 1, 1, s.idx⟩
          else .error ⟨.unmatched, t, d.ord, 1, 1, s.idx⟩
        else .ok ({ pool := p3.1, avail := st.avail - sd.1 }, la.1, sd.2 ++ la.2.1 ++ p3.2.2) := by
  unfold sellStep
  by_cases hq : s.q = 0
  · have hsd : sameDayPart d st.avail s = (0, []) := by
      rcases sameDayPart_cases d st.avail s with h | ⟨_, _, _, hs, _⟩
      · exact h.1
      · rw [hq] at hs
        exact absurd hs (by decide)
    have : s.q - (sameDayPart d st.avail s).1 ≤ 0 := by rw [hsd, hq]; grind
    simp only [if_pos hq, lookahead_stop _ _ _ _ _ _ _ (.inl this)]
  · simp only [if_neg hq]

theorem sellStep_ok {t : String} {w : Int} {d : Day} {st : MState} {s : Trade} {future : List Day}
    {cl : List Rat} {st' : MState} {cl' : List Rat} {legs : List Leg}
    (h : sellStep t w d st s future cl = .ok (st', cl', legs)) :
    ∃ sd la p3, sd = sameDayPart d st.avail s ∧ la = lookahead w d.date s (s.q - sd.1) d.r future cl ∧
      p3 = poolPart d st.pool la.2.2 s ∧ s.q ≤ st.avail + st.poolQ - outK d.r future cl ∧ p3.2.1 ≤ 0 ∧
      st' = { pool := p3.1, avail := st.avail - sd.1 } ∧ cl' = la.1 ∧ legs = sd.2 ++ la.2.1 ++ p3.2.2 := by
  rw [sellStep_eq] at h
  split at h
  · cases h
  · rename_i hcov
    simp only at h
    split at h
    · split at h <;> cases h
    · rename_i hfull
      simp only [Except.ok.injEq, Prod.mk.injEq] at h
      exact ⟨_, _, _, rfl, rfl, rfl, Rat.not_lt.mp hcov, Rat.not_lt.mp hfull, h.1.symm, h.2.1.symm, h.2.2.symm⟩

theorem sellsStep_cons_ok {t : String} {w : Int} {d : Day} {future : List Day} {st st' : MState}
    {s : Trade} {ss : List Trade} {cl cl' : List Rat} {legs : List Leg}
    (h : sellsStep t w d future st (s :: ss) cl = .ok (st', cl', legs)) :
    ∃ st1 cl1 legs1 legs2, sellStep t w d st s future cl = .ok (st1, cl1, legs1) ∧
      sellsStep t w d future st1 ss cl1 = .ok (st', cl', legs2) ∧ legs = legs1 ++ legs2 := by
  simp only [sellsStep] at h
  split at h
  · cases h
  · rename_i st1 cl1 legs1 h1
    split at h
    · cases h
    · rename_i st2 cl2 legs2 h2
      cases h
      exact ⟨st1, cl1, legs1, legs2, h1, h2, rfl⟩

theorem sellsStep_induction {t : String} {w : Int} {d : Day} {future : List Day}
    {motive : ∀ st cl ss st' cl' legs, sellsStep t w d future st ss cl = .ok (st', cl', legs) → Prop}
    (nil : ∀ st cl, motive st cl [] st cl [] rfl)
    (cons : ∀ st cl s ss st1 cl1 legs1 st2 cl2 legs2
      (_ : sellStep t w d st s future cl = .ok (st1, cl1, legs1))
      (h2 : sellsStep t w d future st1 ss cl1 = .ok (st2, cl2, legs2)), motive st1 cl1 ss st2 cl2 legs2 h2 →
      ∀ h, motive st cl (s :: ss) st2 cl2 (legs1 ++ legs2) h)
    {st : MState} {cl : List Rat} {ss : List Trade} {st' : MState} {cl' : List Rat} {legs : List Leg}
    (h : sellsStep t w d future st ss cl = .ok (st', cl', legs)) : motive st cl ss st' cl' legs h := by
  induction ss generalizing st cl legs with
  | nil =>
    cases h
    exact nil _ _
  | cons s ss ih =>
    obtain ⟨st1, cl1, legs1, legs2, h1, h2, rfl⟩ := sellsStep_cons_ok h
    exact cons _ _ _ _ _ _ _ _ _ _ h1 h2 (ih h2) h

theorem dayStep_ok {t : String} {w : Int} {pool : Option Pool} {d : Day} {claimed : Rat}
    {future : List Day} {cl : List Rat} {pool' : Option Pool} {cl' : List Rat} {legs : List Leg}
    (h : dayStep t w pool d claimed future cl = .ok (pool', cl', legs)) :
    ∃ a st, buyStage t d claimed = .ok a ∧
      sellsStep t w d future { pool := pool, avail := a } d.sells cl = .ok (st, cl', legs) ∧
      pool' = poolAfter d st := by
  unfold dayStep at h
  split at h
  · cases h
  · rename_i a ha
    split at h
    · cases h
    · rename_i st cl1 legs1 hs
      cases h
      exact ⟨a, st, ha, hs, rfl⟩

theorem runDays_cons_ok {t : String} {w : Int} {pool pool' : Option Pool} {d : Day} {ds : List Day}
    {cl : List Rat} {legs : List Leg} (h : runDays t w pool (d :: ds) cl = .ok (pool', legs)) :
    ∃ pool1 cl1 legs1 legs2, dayStep t w pool d (cl.headD 0) ds cl.tail = .ok (pool1, cl1, legs1) ∧
      runDays t w pool1 ds cl1 = .ok (pool', legs2) ∧ legs = legs1 ++ legs2 := by
  simp only [runDays] at h
  split at h
  · cases h
  · rename_i pool1 cl1 legs1 h1
    split at h
    · cases h
    · rename_i pool2 legs2 h2
      cases h
      exact ⟨pool1, cl1, legs1, legs2, h1, h2, rfl⟩

theorem runDays_induction {t : String} {w : Int}
    {motive : ∀ ds pool cl pool' legs, runDays t w pool ds cl = .ok (pool', legs) → Prop}
    (nil : ∀ pool cl, motive [] pool cl pool [] rfl)
    (cons : ∀ d ds pool cl pool1 cl1 legs1 pool2 legs2
      (_ : dayStep t w pool d (cl.headD 0) ds cl.tail = .ok (pool1, cl1, legs1))
      (h2 : runDays t w pool1 ds cl1 = .ok (pool2, legs2)), motive ds pool1 cl1 pool2 legs2 h2 →
      ∀ h, motive (d :: ds) pool cl pool2 (legs1 ++ legs2) h)
    {ds : List Day} {pool : Option Pool} {cl : List Rat} {pool' : Option Pool} {legs : List Leg}
    (h : runDays t w pool ds cl = .ok (pool', legs)) : motive ds pool cl pool' legs h := by
  induction ds generalizing pool cl legs with
  | nil =>
    cases h
    exact nil _ _
  | cons d ds ih =>
    obtain ⟨pool1, cl1, legs1, legs2, h1, h2, rfl⟩ := runDays_cons_ok h
    exact cons _ _ _ _ _ _ _ _ _ h1 h2 (ih h2) h

/-- days as the main pass sees them: the pre-pass only writes cost offsets -/
def C02.setOffsets (f : Day → Rat) (ds : List Day) : List Day := ds.map (fun d => { d with offset := f d })

theorem withOffsets_of_prepass {t : String} {ds : List Day} {lots : List Lot} (h : prepass t [] ds = .ok lots) :
    withOffsets t ds = .ok (C02.setOffsets (fun d => offsetFor d.ord lots) ds) := by
  unfold withOffsets
  rw [h]
  rfl

theorem withOffsets_ok {t : String} {ds ds' : List Day} (h : withOffsets t ds = .ok ds') :
    ∃ lots, prepass t [] ds = .ok lots ∧ ds' = C02.setOffsets (fun d => offsetFor d.ord lots) ds := by
  cases hp : prepass t [] ds with
  | error e =>
    unfold withOffsets at h
    rw [hp] at h
    cases h
  | ok lots => exact ⟨lots, rfl, Except.ok.inj ((withOffsets_of_prepass hp).symm.trans h).symm⟩

theorem runTicker_eq {t : String} {ds ds' : List Day} (w : Int) (h : withOffsets t ds = .ok ds') :
    runTicker t w ds = runDays t w none ds' [] := by
  unfold runTicker
  rw [h]

theorem runTicker_ok {t : String} {w : Int} {ds : List Day} {r : Option Pool × List Leg}
    (h : runTicker t w ds = .ok r) : ∃ lots, prepass t [] ds = .ok lots ∧
      runDays t w none (C02.setOffsets (fun d => offsetFor d.ord lots) ds) [] = .ok r := by
  cases hp : prepass t [] ds with
  | error e =>
    unfold runTicker withOffsets at h
    rw [hp] at h
    cases h
  | ok lots => exact ⟨lots, rfl, runTicker_eq w (withOffsets_of_prepass hp) ▸ h⟩

theorem runTicker_nil (t : String) (w : Int) : runTicker t w [] = .ok (none, []) := rfl

def legQty (ls : List Leg) : Rat := rsum (ls.map (·.qty))
def legGross (ls : List Leg) : Rat := rsum (ls.map (·.gross))
def legNet (ls : List Leg) : Rat := rsum (ls.map (·.net))
def legGain (ls : List Leg) : Rat := rsum (ls.map (·.gain))
def legCost (ls : List Leg) : Rat := rsum (ls.map (·.cost))

@[simp] theorem legQty_nil : legQty [] = 0 := rfl
@[simp] theorem legQty_cons (l : Leg) (ls : List Leg) : legQty (l :: ls) = l.qty + legQty ls := rfl
theorem legQty_append (a b : List Leg) : legQty (a ++ b) = legQty a + legQty b := by
  simp [legQty, rsum_append]

@[simp] theorem legCost_nil : legCost [] = 0 := rfl
@[simp] theorem legCost_cons (l : Leg) (ls : List Leg) : legCost (l :: ls) = l.cost + legCost ls := rfl
theorem legCost_append (a b : List Leg) : legCost (a ++ b) = legCost a + legCost b := by
  simp [legCost, rsum_append]

@[simp] theorem mkLeg_qty (d : Date) (r : Rule) (m c : Rat) (s : Trade) (a : Option Date) :
    (mkLeg d r m c s a).qty = m := rfl
@[simp] theorem mkLeg_sellDate (d : Date) (r : Rule) (m c : Rat) (s : Trade) (a : Option Date) :
    (mkLeg d r m c s a).sellDate = d := rfl
@[simp] theorem mkLeg_cost (d : Date) (r : Rule) (m c : Rat) (s : Trade) (a : Option Date) :
    (mkLeg d r m c s a).cost = c := rfl

end Cgt
