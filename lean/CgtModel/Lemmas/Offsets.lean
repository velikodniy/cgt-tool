import CgtModel.CostOffsets
/-! One capital event of the cost pre-pass (`applyAdj`): while something is held, a capital return /
    accumulation moves the sum of the lots' cost offsets by exactly its amount (`applyAdj_sum`). -/
namespace Cgt

def offSum (lots : List Lot) : Rat := rsum (lots.map (·.off))

def adjStep (adj th : Rat) (l : Lot) : Lot :=
  if l.held > 0 then { l with off := l.off + adj * (l.held / th) } else l

theorem adjStep_held (adj th : Rat) (l : Lot) : (adjStep adj th l).held = l.held := by
  unfold adjStep; split <;> rfl

theorem adjStep_ord (adj th : Rat) (l : Lot) : (adjStep adj th l).ord = l.ord := by
  unfold adjStep; split <;> rfl

theorem applyAdj_none_held (adj : Rat) (lots : List Lot) (h : totalHeld lots = 0) :
    applyAdj adj lots = lots := by unfold applyAdj; simp [h]

/-- with nothing held in total the share `held / 0` is 0, so the map does without `applyAdj`'s test `th = 0` -/
theorem applyAdj_eq (adj : Rat) (lots : List Lot) :
    applyAdj adj lots = lots.map (adjStep adj (totalHeld lots)) := by
  by_cases h : totalHeld lots = 0
  · rw [applyAdj_none_held adj lots h, h]
    refine ((List.map_congr_left fun l _ => ?_).trans (List.map_id _)).symm
    unfold adjStep
    split
    · rw [Rat.div_def, Rat.inv_zero, Rat.mul_zero, Rat.mul_zero, Rat.add_zero]
      rfl
    · rfl
  · unfold applyAdj
    simp only [h, if_false]
    rfl

theorem adjStep_off (adj th : Rat) (l : Lot) (h : 0 ≤ l.held) :
    (adjStep adj th l).off = l.off + adj * (l.held / th) := by
  unfold adjStep
  split
  · rfl
  · rename_i hn
    rw [Rat.le_antisymm (Rat.not_lt.mp hn) h, Rat.div_def, Rat.zero_mul, Rat.mul_zero, Rat.add_zero]

theorem map_adjStep_sum (adj th : Rat) : ∀ (lots : List Lot), (∀ l ∈ lots, 0 ≤ l.held) →
    offSum (lots.map (adjStep adj th)) = offSum lots + adj * (totalHeld lots / th)
  | [], _ => by
    show (0 : Rat) = 0 + adj * (0 / th)
    grind
  | l :: ls, h => by
    have ⟨hl, hls⟩ := List.forall_mem_cons.mp h
    have ih := map_adjStep_sum adj th ls hls
    simp only [offSum, totalHeld, List.map_cons, rsum_cons] at ih ⊢
    rw [ih, adjStep_off adj th l hl]
    grind

theorem applyAdj_sum (adj : Rat) (lots : List Lot) (hnn : ∀ l ∈ lots, 0 ≤ l.held)
    (hth : totalHeld lots ≠ 0) : offSum (applyAdj adj lots) = offSum lots + adj := by
  rw [applyAdj_eq adj lots, map_adjStep_sum adj _ lots hnn]
  rw [Rat.div_def, Rat.mul_inv_cancel _ hth, Rat.mul_one]

theorem totalHeld_applyAdj (adj : Rat) (lots : List Lot) : totalHeld (applyAdj adj lots) = totalHeld lots := by
  rw [applyAdj_eq adj lots]
  unfold totalHeld
  rw [List.map_map]
  exact congrArg rsum (List.map_congr_left fun l _ => adjStep_held ..)

end Cgt
