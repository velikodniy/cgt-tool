import CgtModel.Lemmas.SpecGauge
import CgtModel.Lemmas.SpecPerm
/-! The post-split twin of a ledger, at the level of `Spec.table`: rewriting the lines of a security
    dated on or before a split day in post-split units and neutralising the split line is a change of
    gauge of the day table, so `identifyTbl_gauge` applies. SpecGauge gives each day its unit by position;
    the twin's table is built line by line through `insert`, which shifts positions, so here a day's unit
    is read off the day itself (`regaugeBy`, with the next day's unit from `nextUnit`) and `regaugeBy_eq`
    takes it back to positions. -/
-- irreducible because otherwise, where a first attempt at `h ▸ a` or `rw … at` between dates and day numbers fails,
-- the elaborator goes on to unfold `Date.ord` into the calendar arithmetic, which is slow to check
attribute [local irreducible] Cgt.Date.ord
namespace Cgt.Spec
open Cgt

def nextUnit (γ : SDay → Rat) : List SDay → Rat
  | [] => 1
  | e :: _ => γ e

def gaugeBy (γ : SDay → Rat) (n : Rat) (d : SDay) : SDay :=
  { d with B := d.B * γ d, S := d.S * γ d, r := d.r * n / γ d }

def regaugeBy (γ : SDay → Rat) : List SDay → List SDay
  | [] => []
  | d :: rest => gaugeBy γ (nextUnit γ rest) d :: regaugeBy γ rest

/-- the unit after the last day is 1, here as in `nextUnit`: the closing quantity, which is counted in it, is
    therefore the same in both gauges (`identify_twin`) -/
def unitsOf (γ : SDay → Rat) (T : List SDay) (i : Nat) : Rat :=
  match T[i]? with
  | some d => γ d
  | none => 1

/-- `regaugeBy_eq` from any start index, for the induction -/
theorem regauge_eq_regaugeBy (γ : SDay → Rat) (g : Nat → Rat) : ∀ (rest : List SDay) (i : Nat),
    (∀ j, g (i + j) = unitsOf γ rest j) → regauge g i rest = regaugeBy γ rest := by
  intro rest
  induction rest with
  | nil => intro i _; rfl
  | cons d rest ih =>
    intro i h
    have h0 : g i = γ d := by have := h 0; simpa [unitsOf] using this
    have h1 : g (i + 1) = nextUnit γ rest := by
      have := h 1
      simp only [unitsOf, List.getElem?_cons_succ] at this
      rw [this]
      cases rest <;> rfl
    simp only [regauge, regaugeBy, gaugeBy, gaugeDay, h0, h1]
    congr 1
    apply ih (i + 1)
    intro j
    have := h (j + 1)
    simp only [unitsOf, List.getElem?_cons_succ] at this
    have e : i + 1 + j = i + (j + 1) := by omega
    rw [e, this]; rfl

theorem regaugeBy_eq (γ : SDay → Rat) (T : List SDay) : regaugeBy γ T = regauge (unitsOf γ T) 0 T :=
  (regauge_eq_regaugeBy γ (unitsOf γ T) T 0 (fun j => by simp)).symm

def unitAt (D : Int) (ρ : Rat) (d : SDay) : Rat := if d.date.ord ≤ D then ρ else 1

def twinOp (early : Bool) (ρ : Rat) : Op → Op
  | .buy q p f => if early then .buy (q * ρ) (p / ρ) f else .buy q p f
  | .sell q p f => if early then .sell (q * ρ) (p / ρ) f else .sell q p f
  | op => op

def twinTx (D : Int) (ρ : Rat) (x : Tx) : Tx := { x with op := twinOp (decide (x.date.ord ≤ D)) ρ x.op }

def scaleDay (early : Bool) (ρ : Rat) (d : SDay) : SDay := if early then { d with B := d.B * ρ, S := d.S * ρ } else d

def scaleAt (D : Int) (ρ : Rat) (d : SDay) : SDay := scaleDay (decide (d.date.ord ≤ D)) ρ d

theorem scaleDay_date (e : Bool) (ρ : Rat) (d : SDay) : (scaleDay e ρ d).date = d.date := by
  unfold scaleDay; split <;> rfl

theorem absorb_twin (early : Bool) (ρ : Rat) (hρ : ρ ≠ 0) (d : SDay) (op : Op) :
    (scaleDay early ρ d).absorb (twinOp early ρ op) = scaleDay early ρ (d.absorb op) := by
  have hcancel : ρ * ρ⁻¹ = 1 := Rat.mul_inv_cancel _ hρ
  cases early with
  | false => cases op <;> simp [scaleDay, twinOp]
  | true =>
    cases op <;> simp only [scaleDay, twinOp, SDay.absorb, if_true]
    · apply SDay.ext' <;> simp only [Rat.div_def] <;> grind
    · apply SDay.ext' <;> simp only [Rat.div_def] <;> grind

theorem insert_twin (D : Int) (ρ : Rat) (hρ : ρ ≠ 0) (x : Tx) : ∀ (T : List SDay),
    insert (twinTx D ρ x) (T.map (scaleAt D ρ)) = (insert x T).map (scaleAt D ρ) := by
  have hfresh : (({ date := x.date } : SDay).absorb (twinOp (decide (x.date.ord ≤ D)) ρ x.op))
      = scaleAt D ρ (({ date := x.date } : SDay).absorb x.op) := by
    unfold scaleAt
    rw [absorb_date, ← absorb_twin _ ρ hρ]
    congr 1
    unfold scaleDay; split
    · apply SDay.ext' <;> simp [Rat.zero_mul]
    · rfl
  intro T
  induction T with
  | nil =>
    rw [List.map_nil, insert_nil, insert_nil]
    exact congrArg (· :: []) hfresh
  | cons d ds ih =>
    have hd : (scaleAt D ρ d).date = d.date := scaleDay_date _ _ _
    rw [List.map_cons]
    rcases Int.lt_trichotomy x.date.ord d.date.ord with h | h | h
    · rw [insert_lt h, insert_lt (show (twinTx D ρ x).date.ord < _ by rw [hd]; exact h), List.map_cons, List.map_cons]
      exact congrArg (· :: _) hfresh
    · rw [insert_eq h, insert_eq (show (twinTx D ρ x).date.ord = _ by rw [hd]; exact h), List.map_cons]
      refine congrArg (· :: _) ?_
      unfold scaleAt twinTx
      rw [absorb_date, h]
      exact absorb_twin _ ρ hρ d x.op
    · rw [insert_gt h, insert_gt (show _ < (twinTx D ρ x).date.ord by rw [hd]; exact h), List.map_cons, ih]

theorem insFold_twin (t : String) (D : Int) (ρ : Rat) (hρ : ρ ≠ 0) : ∀ (l : List Tx) (T : List SDay),
    insFold t (T.map (scaleAt D ρ)) (l.map (twinTx D ρ)) = (insFold t T l).map (scaleAt D ρ)
  | [], _ => rfl
  | x :: xs, T => by
    rw [List.map_cons, insFold_cons, insFold_cons, show (twinTx D ρ x).ticker = x.ticker from rfl]
    split
    · rw [insert_twin D ρ hρ x T]
      exact insFold_twin t D ρ hρ xs _
    · exact insFold_twin t D ρ hρ xs T

theorem table_twin (t : String) (D : Int) (ρ : Rat) (hρ : ρ ≠ 0) (l : List Tx) :
    table t (l.map (twinTx D ρ)) = (table t l).map (scaleAt D ρ) :=
  insFold_twin t D ρ hρ l []

theorem after_split_fixed (D : Int) (ρ : Rat) : ∀ (T : List SDay), (∀ d ∈ T, D < d.date.ord) →
    T.map (scaleAt D ρ) = T ∧ regaugeBy (unitAt D ρ) T = T ∧ nextUnit (unitAt D ρ) T = 1 := by
  intro T
  induction T with
  | nil => intro _; exact ⟨rfl, rfl, rfl⟩
  | cons d ds ih =>
    intro h
    have hd : ¬ d.date.ord ≤ D := by have := h d (by simp); omega
    obtain ⟨i1, i2, i3⟩ := ih (fun e he => h e (by simp [he]))
    have hu : unitAt D ρ d = 1 := by simp [unitAt, hd]
    refine ⟨?_, ?_, ?_⟩
    · simp only [List.map_cons, i1]; congr 1; simp [scaleAt, scaleDay, hd]
    · simp only [regaugeBy, gaugeBy, i2, i3, hu]
      congr 1
      apply SDay.ext' <;> simp only [Rat.mul_one, Rat.div_def] <;> grind
    · simp [nextUnit, hu]

theorem scaleAt_split_day (D : Int) (ρ : Rat) (hρ : ρ ≠ 0) (d : SDay) (hd : d.date.ord ≤ D) :
    scaleAt D ρ (d.absorb (.split 1)) = gaugeBy (unitAt D ρ) 1 (d.absorb (.split ρ)) := by
  have hcancel : ρ * ρ⁻¹ = 1 := Rat.mul_inv_cancel _ hρ
  simp only [scaleAt, scaleDay, gaugeBy, unitAt, hd, decide_true, if_true, SDay.absorb, factor]
  apply SDay.ext' <;> simp only [Rat.div_def] <;> grind

/-- before the split day both the day's and the next day's unit are `ρ`, on it the units go from `ρ` to 1,
    after it nothing changes -/
theorem twin_split (D : Date) (t : String) (ρ : Rat) (hρ : ρ ≠ 0) : ∀ (T : List SDay), SSorted T →
    (insert ⟨D, t, .split 1⟩ T).map (scaleAt D.ord ρ) = regaugeBy (unitAt D.ord ρ) (insert ⟨D, t, .split ρ⟩ T) := by
  have hcancel : ρ * ρ⁻¹ = 1 := Rat.mul_inv_cancel _ hρ
  intro T
  induction T with
  | nil =>
    intro _
    rw [insert_nil, insert_nil]
    exact congrArg (· :: []) (scaleAt_split_day D.ord ρ hρ _ (Int.le_refl _))
  | cons d ds ih =>
    intro hs
    have hs' := List.pairwise_cons.mp hs
    rcases Int.lt_trichotomy D.ord d.date.ord with h | h | h
    · rw [insert_lt (t := ⟨D, t, .split 1⟩) h, insert_lt (t := ⟨D, t, .split ρ⟩) h]
      have hlate : ∀ e ∈ d :: ds, D.ord < e.date.ord :=
        List.forall_mem_cons.mpr ⟨h, fun e he => Int.lt_trans h (hs'.1 e he)⟩
      obtain ⟨l1, l2, l3⟩ := after_split_fixed D.ord ρ (d :: ds) hlate
      rw [List.map_cons, l1, regaugeBy, l2, l3]
      exact congrArg (· :: d :: ds) (scaleAt_split_day D.ord ρ hρ _ (Int.le_refl _))
    · rw [insert_eq (t := ⟨D, t, .split 1⟩) h, insert_eq (t := ⟨D, t, .split ρ⟩) h]
      have hlate : ∀ e ∈ ds, D.ord < e.date.ord := fun e he => h ▸ hs'.1 e he
      obtain ⟨l1, l2, l3⟩ := after_split_fixed D.ord ρ ds hlate
      rw [List.map_cons, l1, regaugeBy, l2, l3]
      exact congrArg (· :: ds) (scaleAt_split_day D.ord ρ hρ d (Int.le_of_eq h.symm))
    · rw [insert_gt (t := ⟨D, t, .split 1⟩) h, insert_gt (t := ⟨D, t, .split ρ⟩) h, List.map_cons, regaugeBy, ih hs'.2]
      refine congrArg (· :: _) ?_
      obtain ⟨hh, tl, he, hle⟩ := insert_head_le ⟨D, t, .split ρ⟩ ds
      have hdle : d.date.ord ≤ D.ord := Int.le_of_lt h
      have hu : unitAt D.ord ρ d = ρ := if_pos hdle
      have hn : nextUnit (unitAt D.ord ρ) (insert ⟨D, t, .split ρ⟩ ds) = ρ := by
        rw [he]; exact if_pos hle
      rw [hn]
      simp only [scaleAt, scaleDay, gaugeBy, hu, hdle, decide_true, if_true]
      apply SDay.ext' <;> simp only [Rat.div_def] <;> grind

theorem unitsOf_pos (D : Int) (ρ : Rat) (hρ : 0 < ρ) (T : List SDay) : GPos (unitsOf (unitAt D ρ) T) := by
  intro i
  unfold unitsOf
  split
  · unfold unitAt; split
    · exact hρ
    · decide
  · decide

/-- **the post-split twin has the same money** (C10, statutory evaluation): take a ledger `l0` followed
    by `SPLIT t RATIO ρ` dated `D`; rewrite every trade dated on or before `D` in post-split units
    (quantity × ρ, unit price ÷ ρ) and make the split a ratio-1 no-op. Every disposal keeps its date,
    gross and net proceeds and gain, every leg its rule, allowable cost and acquisition date, and the
    closing pool its quantity and cost. -/
theorem identify_twin (w : Int) (t : String) (D : Date) (ρ : Rat) (hρ : 0 < ρ) (l0 : List Tx) :
    let a := identify w t (l0.map (twinTx D.ord ρ) ++ [⟨D, t, .split 1⟩])
    let b := identify w t (l0 ++ [⟨D, t, .split ρ⟩])
    a.disposals.map dispMoney = b.disposals.map dispMoney ∧ a.poolQ = b.poolQ ∧ a.poolC = b.poolC := by
  have hne : ρ ≠ 0 := by grind
  have ha := identify_eq w t (l0.map (twinTx D.ord ρ) ++ [⟨D, t, .split 1⟩])
  have hb := identify_eq w t (l0 ++ [⟨D, t, .split ρ⟩])
  have htab : table t (l0.map (twinTx D.ord ρ) ++ [⟨D, t, .split 1⟩])
      = regauge (unitsOf (unitAt D.ord ρ) (table t (l0 ++ [⟨D, t, .split ρ⟩]))) 0 (table t (l0 ++ [⟨D, t, .split ρ⟩])) := by
    rw [table_snoc t _ _ rfl, table_snoc t _ _ rfl, table_twin t D.ord ρ hne l0, ← regaugeBy_eq,
      ← twin_split D t ρ hne _ (table_sorted t l0), ← insert_twin D.ord ρ hne ⟨D, t, .split 1⟩ (table t l0)]
    rfl
  have hg := identifyTbl_gauge _ (unitsOf_pos D.ord ρ hρ (table t (l0 ++ [⟨D, t, .split ρ⟩]))) w (table t (l0 ++ [⟨D, t, .split ρ⟩]))
  simp only at hg
  rw [← htab, ← ha, ← hb] at hg
  have hlast : unitsOf (unitAt D.ord ρ) (table t (l0 ++ [⟨D, t, .split ρ⟩])) (table t (l0 ++ [⟨D, t, .split ρ⟩])).length = 1 := by
    simp [unitsOf]
  rw [hlast, Rat.mul_one] at hg
  exact hg

end Cgt.Spec
