import CgtModel.Lemmas.Conserve
/-! Acceptance: the main pass succeeds exactly when every sale is covered by the net position. -/
namespace Cgt

theorem outK_nonneg (fs : List Day) : ∀ (k : Rat) (cl : List Rat), 0 < k → ratiosPos fs → claimsOk fs cl →
    0 ≤ outK k fs cl := by
  induction fs with
  | nil =>
    intro k cl _ _ _
    simp [outK]
  | cons e rest ih =>
    intro k cl hk hp hc
    obtain ⟨her, hrest⟩ := hp
    obtain ⟨h0, _, hcr⟩ := hc
    have := ih (k * e.r) cl.tail (Rat.mul_pos hk her) hrest hcr
    simp only [outK]
    have hdiv := rat_div_nonneg h0 hk
    grind

/-- `hs`: for a SELL of quantity zero `poolPart` hands `rem` back as it came -/
theorem poolPart_full (d : Day) (pool : Option Pool) (rem : Rat) (s : Trade)
    (hr : 0 ≤ rem) (hle : rem ≤ poolQ' pool) (hs : s.q = 0 → rem = 0) : (poolPart d pool rem s).2.1 = 0 := by
  rcases poolPart_cases d pool rem s with ⟨e, h⟩ | ⟨p, rfl, -, -, -, -, e⟩ <;> rw [e]
  · rcases h with h | rfl | h | ⟨p, rfl, h⟩ <;> simp only [poolQ'] at hle <;> grind
  · simp only [poolQ'] at hle
    grind

theorem sameDayPart_rest (d : Day) (a p : Rat) (s : Trade)
    (hnb : d.buy = none → a = 0) (hcov : s.q ≤ a + p) (hp : 0 ≤ p) :
    s.q - (sameDayPart d a s).1 ≤ p := by
  rcases sameDayPart_cases d a s with ⟨e, h⟩ | ⟨b, -, -, -, e⟩ <;> rw [e]
  · rcases h with h | h | h
    · have := hnb h
      grind
    · grind
    · grind
  · grind

/-- the holding check passes by `hcov`; it remains that the pool stage ends with nothing left. Claims are not
    negative (`outK_nonneg`), so by `hcov` what Same Day leaves fits into the pool (`sameDayPart_rest`); the
    look-ahead only lowers it (`lookahead_accounts`); so `poolPart_full` applies -/
theorem sellStep_ok_of_covered (t : String) (w : Int) {d : Day} {st : MState} (s : Trade)
    {future : List Day} {cl : List Rat} (inv : SellInv d future st cl)
    (hs : 0 ≤ s.q) (hnb : d.buy = none → st.avail = 0) (hcov : s.q ≤ posOf d st future cl) :
    ∃ r, sellStep t w d st s future cl = .ok r := by
  unfold posOf at hcov
  have hout := outK_nonneg future d.r cl inv.ratio inv.ratios inv.claims
  have hp := inv.pool
  have hsd1 := sameDayPart_rest d st.avail (poolQ' st.pool) s hnb (by grind) hp
  obtain ⟨-, -, sd3, -, sd5, -⟩ := sameDayPart_spec d st.avail s inv.avail hs
  rw [sellStep_eq, if_neg (show ¬ s.q > st.avail + st.poolQ - outK d.r future cl from Rat.not_lt.mpr hcov)]
  -- of the Same-Day result only the bounds `sd3`, `sd5`, `hsd1` matter from here on
  generalize sameDayPart d st.avail s = sd at *
  obtain ⟨-, -, l3, l4, -⟩ :=
    lookahead_accounts w d.date s (s.q - sd.1) d.r future cl inv.ratio inv.ratios (by grind)
  simp only [poolPart_full d st.pool _ s l3 (by grind) (by grind),
    show ¬ ((0 : Rat) > 0) by grind, if_false]
  exact ⟨_, rfl⟩

theorem sellStep_avail_none {t : String} {w : Int} {d : Day} {st : MState} {s : Trade}
    {future : List Day} {cl : List Rat} {st' : MState} {cl' : List Rat} {legs : List Leg}
    (hnb : d.buy = none → st.avail = 0)
    (h : sellStep t w d st s future cl = .ok (st', cl', legs)) : d.buy = none → st'.avail = 0 := by
  intro hb
  obtain ⟨sd, la, p3, rfl, -, -, -, -, rfl, -, -⟩ := sellStep_ok h
  rcases sameDayPart_cases d st.avail s with ⟨e, -⟩ | ⟨b, hb', -⟩
  · show st.avail - _ = 0
    rw [e, hnb hb]
    grind
  · rw [hb] at hb'
    cases hb'

theorem sellsStep_ok_or_exceeds (t : String) (w : Int) (d : Day) (future : List Day) (ss : List Trade) :
    ∀ (st : MState) (cl : List Rat), SellInv d future st cl → sellsOk ss → (d.buy = none → st.avail = 0) →
      0 ≤ posOf d st future cl →
      (soldQty ss ≤ posOf d st future cl → ∃ r, sellsStep t w d future st ss cl = .ok r) ∧
      (¬ soldQty ss ≤ posOf d st future cl →
        ∃ idx, sellsStep t w d future st ss cl = .error ⟨.exceedsHolding, t, d.ord, 1, 1, idx⟩) := by
  induction ss with
  | nil =>
    intro st cl _ _ _ h0
    exact ⟨fun _ => ⟨_, rfl⟩, fun h => absurd h0 h⟩
  | cons s ss ih =>
    intro st cl inv hs hnb h0
    have hs0 := hs s List.mem_cons_self
    have hrest : sellsOk ss := fun x hx => hs x (List.mem_cons_of_mem _ hx)
    have hsum := hrest.soldQty_nonneg
    rw [show soldQty (s :: ss) = s.q + soldQty ss from rfl]
    simp only [sellsStep]
    by_cases hcov : s.q > posOf d st future cl
    · rw [sellStep_eq, if_pos (show s.q > st.avail + st.poolQ - outK d.r future cl from hcov)]
      exact ⟨fun h => by grind, fun _ => ⟨_, rfl⟩⟩
    · obtain ⟨⟨st1, cl1, legs1⟩, h1⟩ := sellStep_ok_of_covered t w s inv hs0 hnb (Rat.not_lt.mp hcov)
      have sp := sellStep_spec inv hs0 h1
      have hpos := sp.posOf
      have hih := ih st1 cl1 (sp.inv inv) hrest (sellStep_avail_none hnb h1) (by grind)
      rw [hpos] at hih
      simp only [h1]
      refine ⟨fun h => ?_, fun h => ?_⟩
      · obtain ⟨⟨st2, cl2, legs2⟩, h2⟩ := hih.1 (by grind)
        exact ⟨_, by rw [h2]⟩
      · obtain ⟨idx, h2⟩ := hih.2 (by grind)
        exact ⟨idx, by rw [h2]⟩

/-- `p` is the holding carried into the day, in that day's units: the day's sales fit into `p` plus the day's
    purchase, and what is left goes on, rescaled by the day's factor. From `p = 0` this is C05's "the shares
    acquired up to and including the date, rescaled by splits, cover the shares sold up to and including it" -/
def covered : Rat → List Day → Prop
  | _, [] => True
  | p, d :: ds => d.S ≤ p + d.B ∧ covered ((p + d.B - d.S) * d.r) ds

theorem covered_setOffsets (f : Day → Rat) : ∀ (ds : List Day) (p : Rat),
    covered p (C02.setOffsets f ds) ↔ covered p ds
  | [], _ => Iff.rfl
  | d :: ds, p => and_congr Iff.rfl (covered_setOffsets f ds ((p + d.B - d.S) * d.r))

theorem dayStep_ok_or_exceeds (t : String) (w : Int) {pool : Option Pool} {d : Day} {claimed : Rat}
    {future : List Day} {cl : List Rat} (inv : DayInv d future pool claimed cl)
    (hp0 : 0 ≤ poolQ' pool - claimed - outK d.r future cl) :
    (d.S ≤ poolQ' pool - claimed - outK d.r future cl + d.B → ∃ r, dayStep t w pool d claimed future cl = .ok r) ∧
    (¬ d.S ≤ poolQ' pool - claimed - outK d.r future cl + d.B →
      ∃ idx, dayStep t w pool d claimed future cl = .error ⟨.exceedsHolding, t, d.ord, 1, 1, idx⟩) := by
  have hB := inv.day.B_nonneg
  have hle := inv.claimed_le
  have hnb : d.buy = none → d.B - claimed = 0 := fun hb => by
    have := Day.B_none hb
    have := inv.claimed_nonneg
    grind
  have hposeq : posOf d ⟨pool, d.B - claimed⟩ future cl = poolQ' pool - claimed - outK d.r future cl + d.B := by
    show d.B - claimed + poolQ' pool - _ = _
    grind
  have hss := sellsStep_ok_or_exceeds t w d future d.sells ⟨pool, d.B - claimed⟩ cl
    ⟨inv.day.ratio, inv.ratios, by show 0 ≤ d.B - claimed; grind, inv.pool, inv.claims⟩ inv.day.sells hnb
  rw [hposeq, ← Day.S_eq] at hss
  obtain ⟨hyes, hno⟩ := hss (by grind)
  unfold dayStep
  rw [buyStage_eq t d claimed hB inv.claimed_nonneg inv.claimed_fits]
  refine ⟨fun hcov => ?_, fun hcov => ?_⟩
  · obtain ⟨⟨st, cl1, legs⟩, h⟩ := hyes hcov
    simp only [h]
    exact ⟨_, rfl⟩
  · obtain ⟨idx, h⟩ := hno hcov
    simp only [h]
    exact ⟨idx, rfl⟩

/-- that the position is not negative is asked beside `RunInv`, not in it: conservation does not need it,
    acceptance does, and every accepted day re-establishes it -/
theorem runDays_iff (t : String) (w : Int) (ds : List Day) :
    ∀ (pool : Option Pool) (cl : List Rat), RunInv ds pool cl → 0 ≤ poolQ' pool - outK 1 ds cl →
      (covered (poolQ' pool - outK 1 ds cl) ds → ∃ r, runDays t w pool ds cl = .ok r) ∧
      (¬ covered (poolQ' pool - outK 1 ds cl) ds →
        ∃ e, runDays t w pool ds cl = .error e ∧ e.kind = .exceedsHolding ∧ e.ticker = t ∧
          ∃ d ∈ ds, e.ord = d.ord) := by
  induction ds with
  | nil =>
    intro pool cl _ _
    exact ⟨fun _ => ⟨_, rfl⟩, fun h => absurd trivial h⟩
  | cons d ds ih =>
    intro pool cl inv hp0
    have hstart : poolQ' pool - outK 1 (d :: ds) cl = poolQ' pool - cl.headD 0 - outK d.r ds cl.tail := by
      rw [outK_one_cons]
      grind
    rw [hstart] at hp0 ⊢
    have hday := dayStep_ok_or_exceeds t w inv.dayInv hp0
    simp only [covered, runDays]
    by_cases hcov : d.S ≤ poolQ' pool - cl.headD 0 - outK d.r ds cl.tail + d.B
    · obtain ⟨⟨pool1, cl1, legs1⟩, h1⟩ := hday.1 hcov
      obtain ⟨-, -, -, pn1, c1, pos1⟩ := dayStep_spec inv.dayInv h1
      have hnn : 0 ≤ poolQ' pool1 - outK 1 ds cl1 := by
        rw [pos1]
        exact Rat.mul_nonneg (by grind) (Rat.le_of_lt inv.days.1.ratio)
      have ih' := ih pool1 cl1 (inv.step h1) hnn
      rw [pos1] at ih'
      simp only [h1]
      refine ⟨fun hrest => ?_, fun hn => ?_⟩
      · obtain ⟨⟨pool2, legs2⟩, h2⟩ := ih'.1 hrest.2
        simp only [h2]
        exact ⟨_, rfl⟩
      · obtain ⟨e, he, hk, ht, d', hd', hord⟩ := ih'.2 fun h => hn ⟨hcov, h⟩
        simp only [he]
        exact ⟨e, rfl, hk, ht, d', List.mem_cons_of_mem _ hd', hord⟩
    · obtain ⟨idx, h1⟩ := hday.2 hcov
      simp only [h1]
      exact ⟨fun h => absurd h.1 hcov, fun _ => ⟨_, rfl, rfl, rfl, d, List.mem_cons_self, rfl⟩⟩

theorem runDays_iff_start (t : String) (w : Int) (ds : List Day) (hok : daysOk ds) :
    (covered 0 ds → ∃ r, runDays t w none ds [] = .ok r) ∧
    (¬ covered 0 ds → ∃ e, runDays t w none ds [] = .error e ∧ e.kind = .exceedsHolding ∧ e.ticker = t ∧
      ∃ d ∈ ds, e.ord = d.ord) := by
  have e : poolQ' none - outK 1 ds [] = 0 := by
    rw [outK_nil]
    show (0 : Rat) - 0 = 0
    grind
  have h := runDays_iff t w ds none [] (.start hok) (e ▸ Rat.le_refl)
  rwa [e] at h

theorem runDays_ok_iff_covered (t : String) (w : Int) (ds : List Day) (hok : daysOk ds) :
    (∃ r, runDays t w none ds [] = .ok r) ↔ covered 0 ds := by
  refine ⟨fun ⟨r, hr⟩ => Classical.byContradiction fun hn => ?_, (runDays_iff_start t w ds hok).1⟩
  obtain ⟨e', he', _⟩ := (runDays_iff_start t w ds hok).2 hn
  rw [hr] at he'
  cases he'

theorem runTicker_ok_iff (t : String) (w : Int) {ds : List Day} (hok : daysOk ds) :
    (∃ r, runTicker t w ds = .ok r) ↔ (∃ ds', withOffsets t ds = .ok ds') ∧ covered 0 ds := by
  have key : ∀ lots, (∃ r, runDays t w none (C02.setOffsets (fun d => offsetFor d.ord lots) ds) [] = .ok r) ↔
      covered 0 ds := fun lots =>
    (runDays_ok_iff_covered t w _ (daysOk_setOffsets _ ds hok)).trans (covered_setOffsets _ ds 0)
  constructor
  · intro ⟨r, hr⟩
    obtain ⟨lots, hp, hr⟩ := runTicker_ok hr
    exact ⟨⟨_, withOffsets_of_prepass hp⟩, (key lots).mp ⟨r, hr⟩⟩
  · intro ⟨⟨ds', hw⟩, hcov⟩
    obtain ⟨lots, -, rfl⟩ := withOffsets_ok hw
    rw [runTicker_eq w hw]
    exact (key lots).mpr hcov

/-- no theorem but `firstUncovered_some` mentions it; none ties it to `sellsStep` -/
def firstUncovered : Rat → List Trade → Option Trade
  | _, [] => none
  | p, s :: ss => if s.q > p then some s else firstUncovered (p - s.q) ss

theorem firstUncovered_some (ss : List Trade) : ∀ (p : Rat) (s : Trade),
    firstUncovered p ss = some s → s ∈ ss := by
  induction ss with
  | nil =>
    intro p s h
    simp [firstUncovered] at h
  | cons a as ih =>
    intro p s h
    simp only [firstUncovered] at h
    split at h
    · simp only [Option.some.injEq] at h
      subst h
      simp
    · have := ih _ _ h
      simp [this]

end Cgt
