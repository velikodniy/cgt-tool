import CgtModel.Dsl
/-! What the round trip asks of a transaction (`txOk`) and what reading back does to it (`normTx`): the
    vocabulary of the layout theorem (`Lemmas/DslLayout.lean`) and of the round trip, which is that theorem
    at the writer's own layout (`Props/C14.lean`). -/
namespace Cgt.Dsl

def tickerOk (s : List Char) : Prop := s ≠ [] ∧ ∀ c ∈ s, isAlnum c = true ∧ upper c = c

def canon (d : DDec) : Prop :=
  d.ip ≠ [] ∧ (∀ c ∈ d.ip, isDigit c = true) ∧ (∀ c ∈ d.fp, isDigit c = true) ∧ stripZeros d.ip = d.ip

/-- `TAX` and `BUY` are the only guard keywords of three letters (`kwBlock_facts`) -/
def curOk (a b c : Char) : Prop :=
  isAlpha a = true ∧ isAlpha b = true ∧ isAlpha c = true ∧ upper a = a ∧ upper b = b ∧ upper c = c ∧
  [a, b, c] ≠ "TAX".toList ∧ [a, b, c] ≠ "BUY".toList

def amtOk (a : DAmt) : Prop := canon a.d ∧ ∃ x y z, a.cur = String.ofList [x, y, z] ∧ curOk x y z

/-- a zero optional amount is not written, so it comes back as the default `0 GBP`: its currency label is lost,
    and the scale of the zero (`0.00 EUR` comes back as `0 GBP`) -/
def normAmt (a : DAmt) : DAmt := if isZeroDec a.d then zeroGbp else a

def opOk : DOp → Prop
  | .buy q p f | .sell q p f => canon q ∧ amtOk p ∧ amtOk f
  | .dividend v x => amtOk v ∧ amtOk x
  | .accumulation q v x | .capreturn q v x => canon q ∧ amtOk v ∧ amtOk x
  | .split r | .unsplit r => canon r

/-- what the layout theorem and the round trip assume of the transaction they are given. The reader's outputs are
    meant to satisfy it; that is not proved (`txOk` occurs only as a hypothesis) -/
def txOk (t : DTx) : Prop :=
  t.y < 10000 ∧ t.m < 100 ∧ t.d < 100 ∧ tickerOk t.ticker.toList ∧ opOk t.op

def normOp : DOp → DOp
  | .buy q p f => .buy q p (normAmt f)
  | .sell q p f => .sell q p (normAmt f)
  | .dividend v x => .dividend v (normAmt x)
  | .accumulation q v x => .accumulation q v (normAmt x)
  | .capreturn q v x => .capreturn q v (normAmt x)
  | .split r => .split r
  | .unsplit r => .unsplit r

def normTx (t : DTx) : DTx := { t with op := normOp t.op }

end Cgt.Dsl
