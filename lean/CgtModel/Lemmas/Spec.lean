import CgtModel.Spec
/-! `Spec` read as a machine that steps through the days: the equations of `row`, what a row's claims
    look like, `claims` and `walk` one day at a time (`rowOf`, `dayOut`). `identifyTbl` is passes 2 and 3 on a
    given day table, `identify_eq` says that `identify` is `identifyTbl` on `table`: the other Spec files state
    their results about `identifyTbl`. -/
namespace Cgt
open Spec

theorem claimedOn_nil (j : Nat) : claimedOn [] j = 0 := rfl

theorem claimedOn_cons (c : Claim) (cs : List Claim) (j : Nat) :
    claimedOn (c :: cs) j = (if c.j = j then c.xk else 0) + claimedOn cs j := by
  unfold claimedOn
  by_cases h : c.j = j
  · simp [h]
  · simp [h, Rat.zero_add]

theorem claimedOn_append (a b : List Claim) (j : Nat) :
    claimedOn (a ++ b) j = claimedOn a j + claimedOn b j := by
  simp only [claimedOn, List.filter_append, List.map_append, rsum_append]

theorem claimedOn_eq_zero {cs : List Claim} {j : Nat} (h : ∀ c ∈ cs, c.j ≠ j) : claimedOn cs j = 0 :=
  rsum_filter_map_eq_zero _ fun c hc => decide_eq_false (h c hc)

abbrev Spec.free (cs : List Claim) (j : Nat) (e : SDay) : Rat := e.B - sameDay e - claimedOn cs j

section row
variable {w : Int} {i : Nat} {di : Date} {cs : List Claim} {j : Nat} {rem k : Rat} {e : SDay} {rest : List SDay}

theorem row_nil : row w i di cs j rem k [] = [] := rfl

theorem row_stop (h : rem ≤ 0 ∨ e.date.ord - di.ord > w) : row w i di cs j rem k (e :: rest) = [] := by
  rw [row]
  rcases h with h | h
  · rw [if_pos h]
  · by_cases hr : rem ≤ 0
    · rw [if_pos hr]
    · rw [if_neg hr, if_pos h]

theorem row_skip (h1 : ¬ rem ≤ 0) (h2 : ¬ e.date.ord - di.ord > w) (h3 : ¬ free cs j e > 0) :
    row w i di cs j rem k (e :: rest) = row w i di cs (j + 1) rem (k * e.r) rest := by
  rw [row, if_neg h1, if_neg h2]
  exact if_neg h3

theorem row_take (h1 : ¬ rem ≤ 0) (h2 : ¬ e.date.ord - di.ord > w) (h3 : free cs j e > 0) :
    row w i di cs j rem k (e :: rest) =
      ⟨i, j, min rem (free cs j e / k), min rem (free cs j e / k) * k⟩ ::
        row w i di cs (j + 1) (rem - min rem (free cs j e / k)) (k * e.r) rest := by
  rw [row, if_neg h1, if_neg h2]
  exact if_pos h3

end row

theorem row_of_nonpos (w : Int) (i : Nat) (di : Date) (cs : List Claim) (j : Nat) {rem : Rat} (k : Rat)
    (rest : List SDay) (h : rem ≤ 0) : row w i di cs j rem k rest = [] := by
  cases rest with
  | nil => rfl
  | cons e rest => exact row_stop (.inl h)

theorem row_fields (w : Int) (i : Nat) (di : Date) (cs : List Claim) : ∀ (rest : List SDay) (j : Nat) (rem k : Rat),
    ∀ c ∈ row w i di cs j rem k rest, c.i = i ∧ j ≤ c.j ∧ c.j < j + rest.length := by
  intro rest
  induction rest with
  | nil => intro j rem k c hc; cases hc
  | cons e rest ih =>
    intro j rem k c hc
    rw [List.length_cons]
    by_cases hstop : rem ≤ 0 ∨ e.date.ord - di.ord > w
    · rw [row_stop hstop] at hc
      cases hc
    · rw [not_or] at hstop
      by_cases hfree : free cs j e > 0
      · rw [row_take hstop.1 hstop.2 hfree] at hc
        rcases List.mem_cons.mp hc with rfl | hc
        · exact ⟨rfl, Nat.le_refl _, Nat.lt_add_of_pos_right (Nat.succ_pos _)⟩
        · have := ih _ _ _ c hc; omega
      · rw [row_skip hstop.1 hstop.2 hfree] at hc
        have := ih _ _ _ c hc; omega

theorem claimedOn_row_below {w : Int} {i : Nat} {di : Date} {cs : List Claim} {rest : List SDay} {j : Nat} {rem k : Rat}
    {t : Nat} (ht : t < j) : claimedOn (row w i di cs j rem k rest) t = 0 :=
  claimedOn_eq_zero fun c hc => by have := (row_fields w i di cs rest j rem k c hc).2.1; omega

def rowOf (w : Int) (i : Nat) (cs : List Claim) (d : SDay) (rest : List SDay) : List Claim :=
  if d.S > 0 then row w i d.date cs (i + 1) (d.S - sameDay d) d.r rest else []

theorem claims_cons (w : Int) (i : Nat) (cs : List Claim) (d : SDay) (rest : List SDay) :
    claims w i cs (d :: rest) = claims w (i + 1) (cs ++ rowOf w i cs d rest) rest := rfl

theorem rowOf_fields (w : Int) (i : Nat) (cs : List Claim) (d : SDay) (rest : List SDay) :
    ∀ c ∈ rowOf w i cs d rest, c.i = i ∧ i + 1 ≤ c.j ∧ c.j < i + 1 + rest.length := by
  intro c hc
  unfold rowOf at hc
  split at hc
  · exact row_fields w i d.date cs rest (i + 1) _ _ c hc
  · cases hc

theorem rowOf_of_not_pos {d : SDay} (h : ¬ d.S > 0) (w : Int) (i : Nat) (cs : List Claim) (rest : List SDay) :
    rowOf w i cs d rest = [] := if_neg h

theorem rowOf_eq_row (w : Int) (i : Nat) (cs : List Claim) {d : SDay} (rest : List SDay) (hB : 0 ≤ d.B) :
    rowOf w i cs d rest = row w i d.date cs (i + 1) (d.S - sameDay d) d.r rest := by
  unfold rowOf
  split
  · rfl
  · rw [row_of_nonpos]; unfold sameDay; grind

theorem claims_eq_append (w : Int) : ∀ (ds : List SDay) (i : Nat) (cs : List Claim),
    ∃ new, claims w i cs ds = cs ++ new ∧ ∀ c ∈ new, i ≤ c.i ∧ c.i < c.j := by
  intro ds
  induction ds with
  | nil => intro i cs; exact ⟨[], (List.append_nil _).symm, fun _ h => by cases h⟩
  | cons d rest ih =>
    intro i cs
    obtain ⟨new, hnew, hf⟩ := ih (i + 1) (cs ++ rowOf w i cs d rest)
    refine ⟨rowOf w i cs d rest ++ new, by rw [claims_cons, hnew, List.append_assoc], ?_⟩
    intro c hc
    rcases List.mem_append.mp hc with hc | hc
    · have := rowOf_fields w i cs d rest c hc; omega
    · have := hf c hc; omega

/-- in the final claims list, the claims of disposal day `i` are exactly its row, and the column sum on day `i` is
    what the earlier rows `cs` put there: later rows only claim later days. So pass 3 can treat day `i` as soon as
    pass 2 has filled row `i` -/
theorem claims_split (w : Int) (i : Nat) (cs : List Claim) (d : SDay) (rest : List SDay) (hcs : ∀ c ∈ cs, c.i < i) :
    (claims w i cs (d :: rest)).filter (fun c => c.i = i) = rowOf w i cs d rest ∧
    claimedOn (claims w i cs (d :: rest)) i = claimedOn cs i := by
  obtain ⟨new, hnew, hf⟩ := claims_eq_append w rest (i + 1) (cs ++ rowOf w i cs d rest)
  rw [claims_cons, hnew]
  have hrow := rowOf_fields w i cs d rest
  constructor
  · have h1 : cs.filter (fun c => decide (c.i = i)) = [] :=
      List.filter_eq_nil_iff.mpr fun c hc => by have := hcs c hc; simp only [decide_eq_true_eq]; omega
    have h2 : new.filter (fun c => decide (c.i = i)) = [] :=
      List.filter_eq_nil_iff.mpr fun c hc => by have := hf c hc; simp only [decide_eq_true_eq]; omega
    have h3 : (rowOf w i cs d rest).filter (fun c => decide (c.i = i)) = rowOf w i cs d rest :=
      List.filter_eq_self.mpr fun c hc => by simp [(hrow c hc).1]
    rw [List.filter_append, List.filter_append, h1, h2, h3, List.nil_append, List.append_nil]
  · rw [claimedOn_append, claimedOn_append,
      claimedOn_eq_zero (cs := rowOf w i cs d rest) (fun c hc => by have := hrow c hc; omega),
      claimedOn_eq_zero (cs := new) (fun c hc => by have := hf c hc; omega), Rat.add_zero, Rat.add_zero]

def fromPool (d : SDay) (mine : List Claim) : Rat := d.S - sameDay d - rsum (mine.map (·.x))

def poolCost (pq pc x : Rat) : Rat := if pq = 0 then 0 else x * (pc / pq)

def poolTake (pq pc x : Rat) : Rat × Rat :=
  (pq - (if x > 0 then x else 0), pc - (if x > 0 then poolCost pq pc x else 0))

def dayLegs (tbl : List SDay) (mine : List Claim) (pq pc : Rat) (d : SDay) : List SLeg :=
  (if sameDay d > 0 then [⟨.sameDay, sameDay d, sameDay d * Spec.unitCost d, some d.date⟩] else []) ++
  mine.map (fun c => ⟨.bedAndBreakfast, c.x, c.xk * Spec.unitCost (dayAt tbl c.j), some (dayAt tbl c.j).date⟩) ++
  (if fromPool d mine > 0 then [⟨.section104, fromPool d mine, poolCost pq pc (fromPool d mine), none⟩] else [])

def dayOut (tbl : List SDay) (mine : List Claim) (claimedI pq pc : Rat) (d : SDay) : List SDisposal × Rat × Rat :=
  let legs := dayLegs tbl mine pq pc d
  let net := d.Sgross - d.Sfees
  let pool := poolTake pq pc (fromPool d mine)
  let keep := d.B - sameDay d - claimedI
  (if d.S > 0 then
     [{ date := d.date, qty := d.S, gross := d.Sgross, net := net, gain := net - rsum (legs.map (·.cost)), legs := legs }]
   else [],
   (pool.1 + keep) * d.r,
   pool.2 + keep * Spec.unitCost d)

theorem walk_cons (tbl : List SDay) (cs : List Claim) (i : Nat) (pq pc : Rat) (d : SDay) (rest : List SDay) :
    walk tbl cs i pq pc (d :: rest) =
      (let o := dayOut tbl (cs.filter (fun c => c.i = i)) (claimedOn cs i) pq pc d
       let r := walk tbl cs (i + 1) o.2.1 o.2.2 rest
       (o.1 ++ r.1, r.2.1, r.2.2)) := rfl

theorem dayOut_legs (tbl : List SDay) {mine : List Claim} (claimedI pq pc : Rat) {d : SDay} (f : SLeg → α)
    (hB : 0 ≤ d.B) (hmine : ¬ d.S > 0 → mine = []) :
    (dayOut tbl mine claimedI pq pc d).1.flatMap (fun dsp => dsp.legs.map f) = (dayLegs tbl mine pq pc d).map f := by
  unfold dayOut
  by_cases h : d.S > 0
  · simp only [if_pos h, List.flatMap_cons, List.flatMap_nil, List.append_nil]
  · have hsd : ¬ sameDay d > 0 := by unfold sameDay; grind
    have hfp : ¬ fromPool d [] > 0 := by unfold fromPool sameDay; simp only [List.map_nil, rsum_nil]; grind
    simp only [if_neg h, List.flatMap_nil, dayLegs, hmine h, if_neg hsd, if_neg hfp, List.map_nil, List.append_nil]

def identifyTbl (w : Int) (tbl : List SDay) : List SDisposal × Rat × Rat :=
  walk tbl (claims w 0 [] tbl) 0 0 0 tbl

theorem identify_eq (w : Int) (ticker : String) (l : List Tx) :
    ((identify w ticker l).disposals, (identify w ticker l).poolQ, (identify w ticker l).poolC)
      = identifyTbl w (table ticker l) := rfl

theorem identify_of_table {ticker : String} {l l' : List Tx} (h : table ticker l = table ticker l') (w : Int) :
    identify w ticker l = identify w ticker l' := by
  unfold identify
  rw [h]

end Cgt
