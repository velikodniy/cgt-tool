import CgtModel.Lemmas.Conserve
/-! No acquisition is over-used: for every day with a purchase, the Same-Day legs of that day plus all
    30-day legs of earlier disposals identified with it (each rescaled by the split factors between
    the disposal and the purchase) stay within the quantity purchased. -/
namespace Cgt

/-- shares (in disposal-day units) of the 30-day legs identified with the day dated `date` -/
def bbAt (date : Date) (legs : List Leg) : Rat :=
  legQty (legs.filter (fun x => x.rule = .bedAndBreakfast ∧ x.acq = some date))

theorem bbAt_nil (date : Date) : bbAt date [] = 0 := rfl
theorem bbAt_append (date : Date) (a b : List Leg) : bbAt date (a ++ b) = bbAt date a + bbAt date b := by
  simp [bbAt, List.filter_append, legQty_append]

theorem bbAt_cons (date : Date) (l : Leg) (ls : List Leg) :
    bbAt date (l :: ls) = (if l.rule = .bedAndBreakfast ∧ l.acq = some date then l.qty else 0) + bbAt date ls := by
  unfold bbAt
  by_cases h : l.rule = .bedAndBreakfast ∧ l.acq = some date
  · simp [h]
  · simp [h]
    grind

theorem bbAt_zero_of (date : Date) (legs : List Leg) (h : ∀ x ∈ legs, ¬ (x.rule = .bedAndBreakfast ∧ x.acq = some date)) :
    bbAt date legs = 0 := by
  unfold bbAt legQty
  exact rsum_filter_map_eq_zero _ fun x hx => by simpa using h x hx

/-- a claim is kept in the units of its purchase day, a leg's quantity in those of the disposal day:
    `k * C02.prodR (fs.take j)` converts disposal-day units into the units of the `j`-th following day -/
theorem lookahead_use (w : Int) (d0 : Date) (s : Trade) (rem k : Rat) (fs : List Day) (cl : List Rat) :
    fs.Pairwise (fun a b => a.date ≠ b.date) → ∀ (j : Nat) (e : Day), fs[j]? = some e →
      (lookahead w d0 s rem k fs cl).1.getD j 0
        = cl.getD j 0 + bbAt e.date (lookahead w d0 s rem k fs cl).2.1 * (k * C02.prodR (fs.take j)) := by
  induction rem, k, fs, cl using lookahead_induction w d0 s with
  | stop =>
    intro _ j e _
    simp only [List.getD_eq_getElem?_getD, bbAt_nil, Rat.zero_mul]
    grind
  | skip rem k e0 rest cl _ _ _ r hr ih | take rem k e0 rest cl b _ _ _ _ ms _ r hr ih =>
    intro hd j e hj
    obtain ⟨hne, hrest⟩ := List.pairwise_cons.mp hd
    have tail_not_e0 : bbAt e0.date r.2.1 = 0 := bbAt_zero_of _ _ fun x hx ⟨_, hacq⟩ => by
      obtain ⟨e', he', -, m, c, rfl⟩ := lookahead_legs _ _ _ _ _ _ _ x (hr ▸ hx)
      exact hne e' he' (Option.some.inj hacq).symm
    cases j with
    | zero =>
      cases Option.some.inj hj
      simp only [List.getD_cons_zero, List.take_zero, C02.prodR, bbAt_cons, tail_not_e0, headD_getD, mkLeg]
      grind
    | succ j =>
      have hne' : ¬ (some e0.date = some e.date) := fun h => hne e (List.mem_of_getElem? hj) (Option.some.inj h)
      simp only [List.getD_cons_succ, List.take_succ_cons, C02.prodR, bbAt_cons, mkLeg, true_and, hne', if_false]
      rw [ih hrest j e hj, getD_tail]
      grind

theorem sellStep_use {t : String} {w : Int} {d : Day} {st st' : MState} {s : Trade} {future : List Day}
    {cl cl' : List Rat} {legs : List Leg} (hdist : future.Pairwise (fun a b => a.date ≠ b.date))
    (h : sellStep t w d st s future cl = .ok (st', cl', legs)) :
    ∀ (j : Nat) (e : Day), future[j]? = some e →
      cl'.getD j 0 = cl.getD j 0 + bbAt e.date legs * (d.r * C02.prodR (future.take j)) := by
  intro j e hj
  obtain ⟨sd, la, p3, hsd, rfl, hp3, -, -, -, rfl, rfl⟩ := sellStep_ok h
  have hsd0 : bbAt e.date sd.2 = 0 := by
    rcases sameDayPart_cases d st.avail s with ⟨e, -⟩ | ⟨b, -, -, -, e⟩ <;> rw [hsd, e] <;> simp [bbAt, mkLeg]
  have hp0 : bbAt e.date p3.2.2 = 0 := by
    rcases poolPart_cases d st.pool (lookahead w d.date s (s.q - sd.1) d.r future cl).2.2 s
      with ⟨e, -⟩ | ⟨p, -, -, -, -, -, e⟩ <;> rw [hp3, e] <;> simp [bbAt, mkLeg]
  rw [bbAt_append, bbAt_append, hsd0, hp0, lookahead_use w d.date s _ d.r future cl hdist j e hj]
  grind

theorem sellsStep_use {t : String} {w : Int} {d : Day} {future : List Day}
    (hdist : future.Pairwise (fun a b => a.date ≠ b.date))
    {ss : List Trade} {st st' : MState} {cl cl' : List Rat} {legs : List Leg}
    (h : sellsStep t w d future st ss cl = .ok (st', cl', legs)) :
    ∀ (j : Nat) (e : Day), future[j]? = some e →
      cl'.getD j 0 = cl.getD j 0 + bbAt e.date legs * (d.r * C02.prodR (future.take j)) := by
  intro j e hj
  induction h using sellsStep_induction with
  | nil =>
    simp only [List.getD_eq_getElem?_getD, bbAt_nil, Rat.zero_mul]
    grind
  | cons st cl s ss st1 cl1 legs1 st2 cl2 legs2 h1 _ ih =>
    rw [ih, sellStep_use hdist h1 j e hj, bbAt_append]
    grind

/-- the factors of the days with `a ≤ d.ord < b`. Half-open because a day's SPLIT applies after its trades:
    from a disposal on day `a` to a purchase on day `b` the disposal day's own factor counts and the purchase
    day's does not -/
def factorBetween (a b : Int) : List Day → Rat
  | [] => 1
  | d :: ds => (if a ≤ d.ord ∧ d.ord < b then d.r else 1) * factorBetween a b ds

theorem factorBetween_append (a b : Int) (xs ys : List Day) :
    factorBetween a b (xs ++ ys) = factorBetween a b xs * factorBetween a b ys := by
  induction xs with
  | nil => simp [factorBetween]
  | cons x xs ih =>
    simp only [List.cons_append, factorBetween, ih]
    grind

theorem factorBetween_eq_one (a b : Int) (ds : List Day) (h : ∀ y ∈ ds, y.ord < a ∨ b ≤ y.ord) :
    factorBetween a b ds = 1 := by
  induction ds with
  | nil => rfl
  | cons d ds ih =>
    have : ¬ (a ≤ d.ord ∧ d.ord < b) := by
      have := h d (by simp)
      omega
    rw [factorBetween, if_neg this, ih fun y hy => h y (by simp [hy])]
    grind

theorem factorBetween_eq_prodR_take (a : Int) : ∀ (fs : List Day), fs.Pairwise (fun x y => x.ord < y.ord) → (∀ x ∈ fs, a ≤ x.ord) →
    ∀ (j : Nat) (e : Day), fs[j]? = some e → factorBetween a e.ord fs = C02.prodR (fs.take j) := by
  intro fs
  induction fs with
  | nil =>
    intro _ _ j e h
    simp at h
  | cons x rest ih =>
    intro hs ha j e hj
    rw [List.pairwise_cons] at hs
    cases j with
    | zero =>
      simp only [List.getElem?_cons_zero, Option.some.injEq] at hj
      subst hj
      have : ¬ (a ≤ x.ord ∧ x.ord < x.ord) := by omega
      simp only [factorBetween, this, if_false, List.take_zero, C02.prodR]
      rw [factorBetween_eq_one a x.ord rest fun y hy => .inr (Int.le_of_lt (hs.1 y hy))]
      grind
    | succ j =>
      simp only [List.getElem?_cons_succ] at hj
      have hmem : e ∈ rest := List.mem_of_getElem? hj
      have hlt := hs.1 e hmem
      have hax := ha x (by simp)
      have : a ≤ x.ord ∧ x.ord < e.ord := ⟨hax, hlt⟩
      simp only [factorBetween, this, and_self, if_true, List.take_succ_cons, C02.prodR]
      rw [ih hs.2 (fun y hy => ha y (by simp [hy])) j e hj]

theorem factorBetween_of_split (pre : List Day) (d : Day) (fs : List Day)
    (hs : (pre ++ d :: fs).Pairwise (fun x y => x.ord < y.ord)) (j : Nat) (e : Day) (hj : fs[j]? = some e) :
    factorBetween d.ord e.ord (pre ++ d :: fs) = d.r * C02.prodR (fs.take j) := by
  rw [List.pairwise_append] at hs
  obtain ⟨_, hdfs, hcross⟩ := hs
  rw [List.pairwise_cons] at hdfs
  have hmem : e ∈ fs := List.mem_of_getElem? hj
  have hde : d.ord < e.ord := hdfs.1 e hmem
  rw [factorBetween_append, factorBetween_eq_one d.ord e.ord pre fun y hy => .inl (hcross y hy d (by simp))]
  have : d.ord ≤ d.ord ∧ d.ord < e.ord := ⟨Int.le_refl _, hde⟩
  simp only [factorBetween, this, and_self, if_true]
  rw [factorBetween_eq_prodR_take d.ord fs hdfs.2 (fun x hx => Int.le_of_lt (hdfs.1 x hx)) j e hj]
  grind

/-- shares of the purchase of day `e` taken by 30-day legs, in `e`'s own units -/
def bbUse (all : List Day) (e : Day) (legs : List Leg) : Rat :=
  rsum ((legs.filter (fun x => x.rule = .bedAndBreakfast ∧ x.acq = some e.date)).map
    (fun x => x.qty * factorBetween x.sellDate.ord e.ord all))

/-- shares of the purchase of day `e` taken by Same-Day legs, which are those of `e`'s own disposals -/
def sdUse (e : Day) (legs : List Leg) : Rat :=
  legQty (legs.filter (fun x => x.rule = .sameDay ∧ x.sellDate = e.date))

theorem bbUse_append (all : List Day) (e : Day) (a b : List Leg) : bbUse all e (a ++ b) = bbUse all e a + bbUse all e b := by
  simp [bbUse, List.filter_append, rsum_append]
theorem sdUse_append (e : Day) (a b : List Leg) : sdUse e (a ++ b) = sdUse e a + sdUse e b := by
  simp [sdUse, List.filter_append, legQty_append]

theorem bbUse_zero_of (all : List Day) (e : Day) (legs : List Leg)
    (h : ∀ x ∈ legs, ¬ (x.rule = .bedAndBreakfast ∧ x.acq = some e.date)) : bbUse all e legs = 0 := by
  unfold bbUse
  exact rsum_filter_map_eq_zero _ fun x hx => by simpa using h x hx

theorem sdUse_zero_of (e : Day) (legs : List Leg) (h : ∀ x ∈ legs, x.sellDate ≠ e.date) : sdUse e legs = 0 := by
  unfold sdUse legQty
  exact rsum_filter_map_eq_zero _ fun x hx => by simpa using fun _ => h x hx

theorem bbUse_same_day (all : List Day) (e d : Day) (legs : List Leg) (h : ∀ x ∈ legs, x.sellDate = d.date) :
    bbUse all e legs = bbAt e.date legs * factorBetween d.ord e.ord all := by
  unfold bbUse bbAt legQty
  rw [← Spec.rsum_map_mul, List.map_map]
  exact congrArg rsum (List.map_congr_left fun x hx => by rw [h x (List.mem_filter.mp hx).1]; rfl)

theorem sdUse_same_day (d : Day) (legs : List Leg) (h : ∀ x ∈ legs, x.sellDate = d.date) : sdUse d legs = sdQty legs := by
  unfold sdUse sdQty
  congr 1
  apply List.filter_congr
  intro x hx
  simp only [h x hx, and_true]
  cases x.rule <;> rfl

theorem date_ne_of_ord_lt (a b : Day) (h : a.ord < b.ord) : a.date ≠ b.date := by
  intro e
  unfold Day.ord at h
  rw [e] at h
  omega

theorem LegFrom.unused {w : Int} {d : Day} {future : List Day} {s : Trade} {x : Leg} {a : Date}
    (h : LegFrom w d future s x) (hf : ∀ e ∈ future, e.date ≠ a) :
    ¬ (x.rule = .bedAndBreakfast ∧ x.acq = some a) := by
  cases h with
  | sameDay => exact fun h => nomatch h.1
  | bnb e he => exact fun h => hf e he (Option.some.inj h.2)
  | pool => exact fun h => nomatch h.1

theorem runDays_unused {t : String} {w : Int} {ds : List Day} {pool pool' : Option Pool} {cl : List Rat}
    {legs : List Leg} (h : runDays t w pool ds cl = .ok (pool', legs)) (all : List Day) (e : Day)
    (hlater : ∀ d ∈ ds, e.ord < d.ord) : sdUse e legs = 0 ∧ bbUse all e legs = 0 := by
  have hne : ∀ d ∈ ds, d.date ≠ e.date := fun d hd => (date_ne_of_ord_lt e d (hlater d hd)).symm
  refine ⟨sdUse_zero_of e legs fun x hx => ?_, bbUse_zero_of all e legs fun x hx => ?_⟩
  · obtain ⟨d, post, hsuf, s, -, hfrom⟩ := runDays_legs h x hx
    rw [hfrom.sellDate]
    exact hne d (hsuf.subset List.mem_cons_self)
  · obtain ⟨d, post, hsuf, s, -, hfrom⟩ := runDays_legs h x hx
    exact hfrom.unused fun e' he' => hne e' (hsuf.subset (List.mem_cons_of_mem _ he'))

theorem factorBetween_setOffsets (f : Day → Rat) (a b : Int) :
    ∀ ds, factorBetween a b (C02.setOffsets f ds) = factorBetween a b ds
  | [] => rfl
  | _ :: ds => congrArg (_ * ·) (factorBetween_setOffsets f a b ds)

theorem bbUse_setOffsets (f : Day → Rat) (ds : List Day) (e : Day) (legs : List Leg) :
    bbUse (C02.setOffsets f ds) e legs = bbUse ds e legs := by
  unfold bbUse
  exact congrArg rsum (List.map_congr_left fun x _ => by rw [factorBetween_setOffsets])

/-- `L0` stands for the legs of the days `pre` before `ds`: `cl` holds, for every day of `ds`, exactly what
    they took from it -/
theorem usage_inv {t : String} {w : Int} {all : List Day} (hall : all.Pairwise (fun a b => a.ord < b.ord))
    {ds pre : List Day} {pool pool' : Option Pool} {cl : List Rat} {L0 legs : List Leg}
    (hsplit : all = pre ++ ds) (inv : RunInv ds pool cl)
    (hcl : ∀ (j : Nat) (e : Day), ds[j]? = some e → cl.getD j 0 = bbUse all e L0 ∧ sdUse e L0 = 0)
    (h : runDays t w pool ds cl = .ok (pool', legs)) :
    ∀ e ∈ ds, sdUse e (L0 ++ legs) + bbUse all e (L0 ++ legs) ≤ e.B := by
  induction h using runDays_induction generalizing pre L0 with
  | nil =>
    intro e he
    cases he
  | cons d rest pool cl pool1 cl1 legs1 pool2 legs2 h1 h2 ih =>
    obtain ⟨hlater, hrests⟩ :=
      List.pairwise_cons.mp (List.pairwise_append.mp (hsplit ▸ hall)).2.1
    obtain ⟨-, hlegs1, hbound, -⟩ := dayStep_spec inv.dayInv h1
    obtain ⟨_, _, _, hsells1, _⟩ := dayStep_ok h1
    have hl1date : ∀ x ∈ legs1, x.sellDate = d.date := fun x hx => (hlegs1 x hx).2
    obtain ⟨hcl0, hsd0⟩ := hcl 0 d rfl
    intro e he
    rcases List.mem_cons.mp he with rfl | he
    · -- the day itself: its Same-Day legs and the claims it arrived with
      obtain ⟨e2, e4⟩ := runDays_unused h2 all e hlater
      have e3 : bbUse all e legs1 = 0 := bbUse_zero_of all e legs1 fun x hx =>
        have ⟨s, _, hfrom⟩ := sellsStep_legs hsells1 x hx
        hfrom.unused fun e' he' => (date_ne_of_ord_lt e e' (hlater e' he')).symm
      rw [sdUse_append, sdUse_append, bbUse_append, bbUse_append, hsd0, sdUse_same_day e legs1 hl1date, e2, e3,
        e4, ← hcl0, ← headD_getD]
      grind
    · -- a later day: the induction hypothesis with the claims updated by today's legs
      have huse1 := sellsStep_use (hrests.imp fun hlt => date_ne_of_ord_lt _ _ hlt) hsells1
      have hcl' : ∀ (j : Nat) (e' : Day), rest[j]? = some e' →
          cl1.getD j 0 = bbUse all e' (L0 ++ legs1) ∧ sdUse e' (L0 ++ legs1) = 0 := by
        intro j e' hj
        obtain ⟨hclj, hsdj⟩ := hcl (j + 1) e' (by simpa using hj)
        have hmem : e' ∈ rest := List.mem_of_getElem? hj
        constructor
        · rw [huse1 j e' hj, getD_tail, hclj, bbUse_append, bbUse_same_day all e' d legs1 hl1date,
            hsplit, factorBetween_of_split pre d rest (hsplit ▸ hall) j e' hj]
        · have : sdUse e' legs1 = 0 := sdUse_zero_of e' legs1 fun x hx => by
            rw [hl1date x hx]
            exact date_ne_of_ord_lt d e' (hlater e' hmem)
          rw [sdUse_append, hsdj, this]
          grind
      have := ih (pre := pre ++ [d]) (L0 := L0 ++ legs1) (by rw [hsplit, List.append_assoc]; rfl) (inv.step h1) hcl' e he
      rwa [List.append_assoc] at this

/-- **C02 (b) for one security** -/
theorem no_acquisition_overused {t : String} {w : Int} {ds : List Day} (hs : ds.Pairwise (fun a b => a.ord < b.ord))
    (hok : daysOk ds) {pool : Option Pool} {legs : List Leg} (h : runDays t w none ds [] = .ok (pool, legs)) :
    ∀ e ∈ ds, sdUse e legs + bbUse ds e legs ≤ e.B := by
  have := usage_inv hs (pre := []) (L0 := []) rfl (.start hok) (by intro j e _; simp [bbUse, sdUse]) h
  simpa using this

theorem runTicker_no_acquisition_overused {t : String} {w : Int} {ds : List Day}
    (hs : ds.Pairwise (fun a b => a.ord < b.ord)) (hok : daysOk ds) {pool : Option Pool} {legs : List Leg}
    (h : runTicker t w ds = .ok (pool, legs)) : ∀ e ∈ ds, sdUse e legs + bbUse ds e legs ≤ e.B := by
  intro e he
  obtain ⟨lots, -, hrun⟩ := runTicker_ok h
  have hs' : (C02.setOffsets (fun d => offsetFor d.ord lots) ds).Pairwise (fun a b => a.ord < b.ord) :=
    List.pairwise_map.mpr hs
  have := no_acquisition_overused hs' (daysOk_setOffsets _ _ hok) hrun _ (List.mem_map_of_mem he)
  rwa [bbUse_setOffsets] at this

end Cgt
