import CgtModel.Lemmas.DslRoundTrip
/-! The reader on a transaction line in an arbitrary layout: any run of blanks/tabs in every gap, keywords in
    any mixture of case, leading blanks, trailing blanks and comment.

    One notion carries the file: a reader function *reads* a text `s` as a value `v` when, in front of any
    rest that begins a gap or ends the line (`tokEnd`), it returns `v` and that rest. Each reader function
    of `Dsl.lean` gets one such lemma: `…_tok` for a token, `…_gap` for the same behind a gap (as the callers
    have it, under `skipWC`), `…_lay` for what is stated over a `Layout`. A token's text is a `Word`: not empty,
    no separator in it. The line theorem `parseLine_render` chains them. The writer's own output is the layout
    with single blanks and the keywords as they stand (`C14.writeTx_eq_render`), so the round trip needs no token
    lemmas of its own. -/
namespace Cgt.Dsl

/-- what stands between tokens, after them, and between lines. LF and CR are among them, though no line holds
    one, so that a token's text (`Word`) is in-line for free (`Word.lineChars`) -/
def seps : List Char := [' ', '\t', '#', '\n', '\r']

theorem seps_facts : ∀ c ∈ seps, isAlnum c = false ∧ upper c = c ∧ c ≠ '-' ∧ c ≠ '.' := by decide

theorem alnum_of_digit {c : Char} (h : isDigit c = true) : isAlnum c = true := by simp [isAlnum, h]
theorem alnum_of_alpha {c : Char} (h : isAlpha c = true) : isAlnum c = true := by simp [isAlnum, h]

theorem not_sep_of_alnum {c : Char} (h : isAlnum c = true) : c ∉ seps :=
  fun hc => by rw [(seps_facts c hc).1] at h; cases h

theorem not_sep_of_upper_alpha {c : Char} (h : isAlpha (upper c) = true) : c ∉ seps := fun hc => by
  rw [(seps_facts c hc).2.1] at h
  exact not_sep_of_alnum (alnum_of_alpha h) hc

theorem sep_of_blank {c : Char} (h : isWs c = true ∨ c = '#') : c ∈ seps := by
  simp only [isWs, Bool.or_eq_true, decide_eq_true_eq] at h
  rcases h with (rfl | rfl) | rfl <;> decide

/-- grouped by use: the first pair is what ends a gap (`skipWC_gap`), the second what keeps a character in its line -/
theorem not_sep_iff {c : Char} : c ∉ seps ↔ (isWs c = false ∧ c ≠ '#') ∧ c ≠ '\n' ∧ c ≠ '\r' := by
  simp only [seps, isWs, List.mem_cons, List.not_mem_nil, or_false, not_or, Bool.or_eq_false_iff,
    decide_eq_false_iff_not, and_assoc]

/-- a run of blanks and tabs; the `0`: it may be empty -/
def wsRun0 (w : List Char) : Prop := ∀ c ∈ w, isWs c = true
instance (w : List Char) : Decidable (wsRun0 w) := inferInstanceAs (Decidable (∀ c ∈ w, isWs c = true))
def wsRun (w : List Char) : Prop := w ≠ [] ∧ wsRun0 w

theorem wsRun.run0 {w : List Char} (h : wsRun w) : wsRun0 w := h.2

def trailOk (p : List Char) : Prop := wsRun0 p ∨ ∃ w r, p = w ++ '#' :: r ∧ wsRun0 w

def tokEnd (rest : List Char) : Prop := ∀ c r, rest = c :: r → c ∈ seps

/-- begins with a visible character, which is where `skipWC` stops (`skipWC_gap`) -/
def Vis (s : List Char) : Prop := ∃ c r, s = c :: r ∧ c ∉ seps

theorem Vis.append {s : List Char} (h : Vis s) (r : List Char) : Vis (s ++ r) := by
  obtain ⟨c, r', rfl, hc⟩ := h
  exact ⟨c, r' ++ r, rfl, hc⟩

def Word (s : List Char) : Prop := s ≠ [] ∧ ∀ c ∈ s, c ∉ seps

theorem Word.vis {s : List Char} (h : Word s) : Vis s := by
  cases s with
  | nil => exact absurd rfl h.1
  | cons c r => exact ⟨c, r, rfl, h.2 c (by simp)⟩

theorem skipWs_run : ∀ (w : List Char), wsRun0 w → ∀ cs, skipWs (w ++ cs) = skipWs cs := by
  intro w
  induction w with
  | nil => intro _ cs; rfl
  | cons x xs ih =>
    intro h cs
    simp only [List.cons_append, skipWs, h x (by simp), if_true]
    exact ih (fun c hc => h c (by simp [hc])) cs

theorem skipWC_gap {g s : List Char} (hg : wsRun0 g) (hs : Vis s) : skipWC (g ++ s) = s := by
  obtain ⟨c, r, rfl, hc⟩ := hs
  obtain ⟨⟨hws, hh⟩, -⟩ := not_sep_iff.1 hc
  unfold skipWC
  rw [skipWs_run g hg, skipWs, if_neg (by simp [hws])]
  split
  · rename_i heq; injection heq with h1 _; exact absurd h1 hh
  · rfl

theorem skipWC_blank (w : List Char) (hw : wsRun0 w) : skipWC w = [] := by
  unfold skipWC
  have := skipWs_run w hw []
  rw [List.append_nil] at this
  rw [this]; rfl

theorem skipWC_comment (w : List Char) (hw : wsRun0 w) (r : List Char) : skipWC (w ++ '#' :: r) = [] := by
  unfold skipWC
  rw [skipWs_run w hw]; rfl

theorem skipWC_trail (p : List Char) (h : trailOk p) : skipWC p = [] := by
  rcases h with h | ⟨w, r, rfl, hw⟩
  · exact skipWC_blank p h
  · exact skipWC_comment w hw r

theorem tokEnd_nil : tokEnd [] := fun _ _ h => by cases h

theorem tokEnd_cons {c : Char} (r : List Char) (h : isWs c = true ∨ c = '#') : tokEnd (c :: r) :=
  fun _ _ e => by injection e with e _; exact e ▸ sep_of_blank h

theorem trail_tokEnd (p : List Char) (h : trailOk p) : tokEnd p := by
  rcases h with h | ⟨w, r, rfl, hw⟩
  · cases p with
    | nil => exact tokEnd_nil
    | cons c cs => exact tokEnd_cons _ (Or.inl (h c (by simp)))
  · cases w with
    | nil => exact tokEnd_cons _ (Or.inr rfl)
    | cons c cs => exact tokEnd_cons _ (Or.inl (hw c (by simp)))

theorem run_tokEnd (w rest : List Char) (h : wsRun w) : tokEnd (w ++ rest) := by
  obtain ⟨hne, hw⟩ := h
  cases w with
  | nil => exact absurd rfl hne
  | cons c cs => exact tokEnd_cons _ (Or.inl (hw c (by simp)))

theorem spanP_app (p : Char → Bool) (ds rest : List Char) (h : ∀ c ∈ ds, p c = true)
    (hr : ∀ c r, rest = c :: r → p c = false) : spanP p (ds ++ rest) = (ds, rest) := by
  induction ds with
  | nil =>
    cases rest with
    | nil => rfl
    | cons c r => simp [spanP, hr c r rfl]
  | cons d ds ih =>
    have hd := h d (by simp)
    have := ih (fun c hc => h c (by simp [hc]))
    simp [spanP, hd, this]

theorem map_upper_id {l : List Char} (h : ∀ c ∈ l, upper c = c) : l.map upper = l :=
  (List.map_congr_left h).trans (List.map_id' l)

theorem pDecimal_tok (d : DDec) (hc : canon d) (rest : List Char) (hrest : tokEnd rest) :
    pDecimal (showDec d ++ rest) = some (d, rest) := by
  obtain ⟨ip, fp⟩ := d
  obtain ⟨hne, hip, hfp, hstrip⟩ := hc
  have hnd : ∀ c r, rest = c :: r → isDigit c = false := fun c r h => by
    have := (seps_facts c (hrest c r h)).1
    simp only [isAlnum, Bool.or_eq_false_iff] at this
    exact this.1
  have hndot : ∀ r', rest ≠ '.' :: r' := fun r' h => (seps_facts _ (hrest _ _ h)).2.2.2 rfl
  have hdot : ∀ c r, '.' :: (fp ++ rest) = c :: r → isDigit c = false := by
    intro c r h; injection h with h _; rw [← h]; decide
  have hemp : ip.isEmpty = false := List.isEmpty_eq_false_iff.2 hne
  simp only at hstrip
  cases hf : fp.isEmpty
  · simp only [showDec, pDecimal, hf, Bool.false_eq_true, if_false, List.append_assoc, List.cons_append,
      spanP_app isDigit ip _ hip hdot, hemp, spanP_app isDigit fp rest hfp hnd, hstrip]
  · rw [List.isEmpty_iff] at hf
    subst hf
    -- the reader's branch for a `.` after the digits is closed by `hndot`, which `simp` finds in the context
    simp only [showDec, pDecimal, List.isEmpty_nil, if_true, spanP_app isDigit ip rest hip hnd, hemp,
      Bool.false_eq_true, if_false, hstrip]

theorem word_showDec (d : DDec) (hc : canon d) : Word (showDec d) := by
  have dig : ∀ l : List Char, (∀ c ∈ l, isDigit c = true) → ∀ c ∈ l, c ∉ seps :=
    fun l h c hc => not_sep_of_alnum (alnum_of_digit (h c hc))
  unfold showDec
  split
  · exact ⟨hc.1, dig _ hc.2.1⟩
  · refine ⟨by simp [hc.1], fun c h => ?_⟩
    rcases List.mem_append.1 h with h | h
    · exact dig _ hc.2.1 c h
    · rcases List.mem_cons.1 h with rfl | h
      · decide
      · exact dig _ hc.2.2.1 c h

theorem pDecimal_gap {g rest : List Char} (hg : wsRun g) (q : DDec) (hq : canon q) (hr : tokEnd rest) :
    pDecimal (skipWC (g ++ (showDec q ++ rest))) = some (q, rest) := by
  rw [skipWC_gap hg.run0 ((word_showDec q hq).vis.append _), pDecimal_tok q hq _ hr]

theorem pTicker_tok (s rest : List Char) (h : tickerOk s) (hr : tokEnd rest) :
    pTicker (s ++ rest) = some (String.ofList s, rest) := by
  unfold pTicker
  rw [spanP_app isAlnum s rest (fun c hc => (h.2 c hc).1) (fun c r e => (seps_facts c (hr c r e)).1)]
  have hne : s.isEmpty = false := by cases s with | nil => exact absurd rfl h.1 | cons _ _ => rfl
  simp only [hne, Bool.false_eq_true, if_false, map_upper_id (fun c hc => (h.2 c hc).2)]

theorem word_ticker (s : List Char) (h : tickerOk s) : Word s :=
  ⟨h.1, fun c hc => not_sep_of_alnum (h.2 c hc).1⟩

theorem pTicker_gap {g tk rest : List Char} (hg : wsRun g) (htk : tickerOk tk) (hr : tokEnd rest) :
    pTicker (skipWC (g ++ (tk ++ rest))) = some (String.ofList tk, rest) := by
  rw [skipWC_gap hg.run0 ((word_ticker tk htk).vis.append _), pTicker_tok tk _ htk hr]

theorem matchKw_nil (k : Char) (ks : List Char) : matchKw (k :: ks) [] = none := rfl

theorem matchKw_head_ne (k : Char) (ks : List Char) (c : Char) (cs : List Char) (h : upper c ≠ k) :
    matchKw (k :: ks) (c :: cs) = none := by simp [matchKw, h]

theorem sp_not_alnum_dash : (isAlnum ' ' || ' ' = '-') = false := by decide

theorem matchKw_case : ∀ (cs kw rest : List Char), cs.map upper = kw → matchKw kw (cs ++ rest) = some rest := by
  intro cs
  induction cs with
  | nil => intro kw rest h; subst h; cases rest <;> rfl
  | cons c cs ih => intro kw rest h; subst h; simp only [List.map_cons, List.cons_append, matchKw, if_true]; exact ih _ _ rfl

theorem matchKw_spelt : ∀ (k cs r : List Char), matchKw k cs = some r → ∃ p, cs = p ++ r ∧ p.map upper = k := by
  intro k
  induction k with
  | nil => intro cs r h; cases cs <;> cases h <;> exact ⟨[], rfl, rfl⟩
  | cons a as ih =>
    intro cs r h
    cases cs with
    | nil => cases h
    | cons c cs =>
      simp only [matchKw] at h
      split at h
      · rename_i e
        obtain ⟨p, rfl, hp⟩ := ih cs r h
        exact ⟨c :: p, rfl, by rw [List.map_cons, e, hp]⟩
      · cases h

theorem matchKw_other (cs kw k rest : List Char) (h : cs.map upper = k) (h1 : ¬ kw <+: k) (h2 : ¬ k <+: kw) :
    matchKw kw (cs ++ rest) = none := by
  cases hm : matchKw kw (cs ++ rest) with
  | none => rfl
  | some r =>
    obtain ⟨p, e, rfl⟩ := matchKw_spelt _ _ _ hm
    subst h
    rcases List.prefix_or_prefix_of_prefix (List.prefix_append cs rest) (e ▸ List.prefix_append p r) with hp | hp
    · exact absurd (hp.map upper) h2
    · exact absurd (hp.map upper) h1

theorem matchKw_inside (s k rest r : List Char) (hk : ∀ c ∈ k, isAlnum c = true) (hr : tokEnd rest)
    (hm : matchKw k (s ++ rest) = some r) : k <+: s.map upper := by
  obtain ⟨p, e, rfl⟩ := matchKw_spelt _ _ _ hm
  rcases List.prefix_or_prefix_of_prefix (List.prefix_append s rest) (e ▸ List.prefix_append p r) with hp | hp
  · obtain ⟨q, rfl⟩ := hp
    cases q with
    | nil => simp
    | cons c q =>
      rw [List.append_assoc, List.append_cancel_left_eq] at e
      have hf := seps_facts c (hr c _ e)
      have := hk (upper c) (by simp)
      rw [hf.2.1, hf.1] at this
      cases this
  · exact hp.map upper

theorem kwBlock_facts : ∀ k ∈ kwBlock, (∀ c ∈ k, isAlnum c = true) ∧ 3 ≤ k.length ∧
    (k.length ≤ 3 → k = "TAX".toList ∨ k = "BUY".toList) := by decide +kernel

/-- A guard keyword that matches a code followed by a separator lies inside the code (`matchKw_inside`); guard
    keywords have at least three letters, so it is the code; and only `TAX` and `BUY` have three (`kwBlock_facts`),
    which `curOk` excludes -/
theorem guard_miss_tok (a b c : Char) (h : curOk a b c) (rest : List Char) (hr : tokEnd rest) :
    guardHit (a :: b :: c :: rest) = false := by
  obtain ⟨_, _, _, ua, ub, uc, nTax, nBuy⟩ := h
  have hci : dslGuardCaseInsensitive = true := rfl
  simp only [guardHit, hci, if_true, List.any_eq_false, Bool.not_eq_true, Option.isSome_eq_false_iff,
    Option.isNone_iff_eq_none]
  intro k hk
  cases hm : matchKw k (a :: b :: c :: rest) with
  | none => rfl
  | some r =>
    have hp : k <+: [a, b, c] := by
      simpa [ua, ub, uc] using matchKw_inside [a, b, c] k rest r (kwBlock_facts k hk).1 hr hm
    obtain ⟨_, h3, hshort⟩ := kwBlock_facts k hk
    have he : k = [a, b, c] := hp.eq_of_length (Nat.le_antisymm hp.length_le h3)
    rcases hshort hp.length_le with e | e
    · exact absurd (he.symm.trans e) nTax
    · exact absurd (he.symm.trans e) nBuy

theorem pCurrency_tok (a b c : Char) (h : curOk a b c) (rest : List Char) (hr : tokEnd rest) :
    pCurrency (a :: b :: c :: rest) = some (String.ofList [a, b, c], rest) := by
  unfold pCurrency
  rw [guard_miss_tok a b c h rest hr]
  obtain ⟨ha, hb, hc, ua, ub, uc, _, _⟩ := h
  simp only [Bool.false_eq_true, if_false, ha, hb, hc, Bool.and_self, if_true, ua, ub, uc]
  cases rest with
  | nil => rfl
  | cons c' r =>
    have hf := seps_facts c' (hr c' r rfl)
    simp [hf.1, hf.2.2.1]

theorem word_cur {x y z : Char} (h : curOk x y z) : Word [x, y, z] := by
  refine ⟨List.cons_ne_nil _ _, ?_⟩
  simp only [List.forall_mem_cons, List.not_mem_nil, false_imp_iff, implies_true, and_true]
  exact ⟨not_sep_of_alnum (alnum_of_alpha h.1), not_sep_of_alnum (alnum_of_alpha h.2.1),
    not_sep_of_alnum (alnum_of_alpha h.2.2.1)⟩

def layAmt (g : List Char) (a : DAmt) : List Char := showDec a.d ++ g ++ a.cur.toList

theorem pMoney_tok (g : List Char) (hg : wsRun g) (a : DAmt) (h : amtOk a) (rest : List Char) (hr : tokEnd rest) :
    pMoney (layAmt g a ++ rest) = some (a, rest) := by
  obtain ⟨d, cur⟩ := a
  obtain ⟨hd, x, y, z, hcur, hc⟩ := h
  subst hcur
  unfold layAmt pMoney
  rw [String.toList_ofList, List.append_assoc, List.append_assoc, pDecimal_tok d hd _ (run_tokEnd g _ hg)]
  simp only
  rw [skipWC_gap hg.run0 ((word_cur hc).vis.append rest)]
  rw [List.cons_append, List.cons_append, List.cons_append, List.nil_append, pCurrency_tok x y z hc rest hr]

def Spells (kw' kw : List Char) : Prop := kw'.map upper = kw ∧ Word kw'

theorem pClause_gap {kw kw' g0 g1 g2 : List Char} (hk : Spells kw' kw) (hg0 : wsRun g0) (hg1 : wsRun g1) (hg2 : wsRun g2)
    (a : DAmt) (h : amtOk a) (rest : List Char) (hr : tokEnd rest) :
    pClause kw (skipWC (g0 ++ (kw' ++ (g1 ++ (layAmt g2 a ++ rest))))) = some (a, rest) := by
  have hv : Vis (layAmt g2 a ++ rest) := (((word_showDec a.d h.1).vis.append g2).append _).append rest
  unfold pClause
  rw [skipWC_gap hg0.run0 (hk.2.vis.append _), matchKw_case kw' kw _ hk.1]
  simp only
  rw [skipWC_gap hg1.run0 hv]
  exact pMoney_tok g2 hg2 a h rest hr

/-- How one transaction line is laid out. `pre`: leading blanks; `post`: trailing blanks and comment; `kw k`: how
    the keyword `k` is spelt. `g i`: the `i`-th gap, numbered along the line: 0 between date and keyword (in
    `render`), 1 between keyword and ticker, 2 behind the ticker, and so on in the order of writing; an amount
    takes one for the gap between its decimal and its currency code, and `layOpt L i` takes `i`, `i + 1`, `i + 2`
    (before the keyword, behind it, inside the amount) -/
structure Layout where
  pre : List Char
  g : Nat → List Char
  kw : List Char → List Char
  post : List Char

def kwAll : List (List Char) :=
  ["BUY".toList, "SELL".toList, "DIVIDEND".toList, "ACCUMULATION".toList, "CAPRETURN".toList, "SPLIT".toList,
   "UNSPLIT".toList, "TOTAL".toList, "FEES".toList, "TAX".toList, "RATIO".toList]

def Layout.ok (L : Layout) : Prop :=
  wsRun0 L.pre ∧ (∀ i, wsRun (L.g i)) ∧ (∀ k ∈ kwAll, (L.kw k).map upper = k) ∧ trailOk L.post

/- The keywords are string literals; rewriting `"…".toList` with `String.toList_ofList` unifies the literal with
   `String.ofList _` instead of having the kernel decode its UTF-8, which is what makes evaluating `toList` dear. -/
theorem kwAll_alpha : ∀ k ∈ kwAll, k ≠ [] ∧ ∀ c ∈ k, isAlpha c = true ∧ upper c = c := by
  unfold kwAll
  repeat rw [String.toList_ofList]
  decide +kernel

theorem forall_kwAll {P : List Char → Prop} (h : ∀ k ∈ kwAll, P k) :
    P "BUY".toList ∧ P "SELL".toList ∧ P "DIVIDEND".toList ∧ P "ACCUMULATION".toList ∧ P "CAPRETURN".toList ∧
    P "SPLIT".toList ∧ P "UNSPLIT".toList ∧ P "TOTAL".toList ∧ P "FEES".toList ∧ P "TAX".toList ∧ P "RATIO".toList := by
  simpa only [kwAll, List.forall_mem_cons, List.not_mem_nil, false_imp_iff, implies_true, and_true] using h

theorem Layout.ok.gap {L : Layout} (hL : L.ok) (i : Nat) : wsRun (L.g i) := hL.2.1 i
theorem Layout.ok.trail {L : Layout} (hL : L.ok) : trailOk L.post := hL.2.2.2

theorem Layout.ok.spells {L : Layout} (hL : L.ok) : ∀ k ∈ kwAll, Spells (L.kw k) k := by
  intro k hk
  have h := hL.2.2.1 k hk
  refine ⟨h, ?_, ?_⟩
  · intro e; rw [e] at h; exact (kwAll_alpha _ hk).1 h.symm
  · intro c hc
    exact not_sep_of_upper_alpha ((kwAll_alpha k hk).2 _ (h ▸ List.mem_map_of_mem hc)).1

/-- omitted when zero, as the writer does -/
def layOpt (L : Layout) (i : Nat) (kw : List Char) (a : DAmt) : List Char :=
  if isZeroDec a.d then [] else L.g i ++ (L.kw kw ++ (L.g (i + 1) ++ layAmt (L.g (i + 2)) a))

theorem pClause_nil {kw : List Char} (h : kw ≠ []) : pClause kw [] = none := by
  cases kw with
  | nil => exact absurd rfl h
  | cons _ _ => rfl

theorem pOptClause_lay (L : Layout) (hL : L.ok) (i : Nat) (kw : List Char) (hk : Spells (L.kw kw) kw) (a : DAmt) (h : amtOk a) :
    pOptClause kw (layOpt L i kw a ++ L.post) = (normAmt a, L.post) := by
  obtain ⟨_, hg, _, hpost⟩ := hL
  unfold layOpt normAmt pOptClause
  by_cases hz : isZeroDec a.d = true
  · have hne : kw ≠ [] := by
      intro e'; rw [← hk.1, List.map_eq_nil_iff] at e'; exact hk.2.1 e'
    simp only [hz, if_true, List.nil_append, skipWC_trail L.post hpost, pClause_nil hne]
  · simp only [hz, Bool.false_eq_true, if_false, List.append_assoc]
    rw [pClause_gap hk (hg i) (hg _) (hg _) a h L.post (trail_tokEnd _ hpost)]

theorem layOpt_tokEnd (L : Layout) (hL : L.ok) (i : Nat) (kw : List Char) (a : DAmt) : tokEnd (layOpt L i kw a ++ L.post) := by
  unfold layOpt
  split
  · exact trail_tokEnd _ hL.trail
  · rw [List.append_assoc]; exact run_tokEnd (L.g i) _ (hL.gap i)

def layCmd (L : Layout) (t : DTx) : List Char :=
  let tk := t.ticker.toList
  match t.op with
  | .buy q p f => L.kw "BUY".toList ++ (L.g 1 ++ (tk ++ (L.g 2 ++ (showDec q ++ (L.g 3 ++ (['@'] ++ (L.g 4 ++ (layAmt (L.g 5) p ++ layOpt L 6 "FEES".toList f))))))))
  | .sell q p f => L.kw "SELL".toList ++ (L.g 1 ++ (tk ++ (L.g 2 ++ (showDec q ++ (L.g 3 ++ (['@'] ++ (L.g 4 ++ (layAmt (L.g 5) p ++ layOpt L 6 "FEES".toList f))))))))
  | .dividend v x => L.kw "DIVIDEND".toList ++ (L.g 1 ++ (tk ++ (L.g 2 ++ (L.kw "TOTAL".toList ++ (L.g 3 ++ (layAmt (L.g 4) v ++ layOpt L 5 "TAX".toList x))))))
  | .accumulation q v x => L.kw "ACCUMULATION".toList ++ (L.g 1 ++ (tk ++ (L.g 2 ++ (showDec q ++ (L.g 3 ++ (L.kw "TOTAL".toList ++ (L.g 4 ++ (layAmt (L.g 5) v ++ layOpt L 6 "TAX".toList x))))))))
  | .capreturn q v f => L.kw "CAPRETURN".toList ++ (L.g 1 ++ (tk ++ (L.g 2 ++ (showDec q ++ (L.g 3 ++ (L.kw "TOTAL".toList ++ (L.g 4 ++ (layAmt (L.g 5) v ++ layOpt L 6 "FEES".toList f))))))))
  | .split r => L.kw "SPLIT".toList ++ (L.g 1 ++ (tk ++ (L.g 2 ++ (L.kw "RATIO".toList ++ (L.g 3 ++ showDec r)))))
  | .unsplit r => L.kw "UNSPLIT".toList ++ (L.g 1 ++ (tk ++ (L.g 2 ++ (L.kw "RATIO".toList ++ (L.g 3 ++ showDec r)))))

def render (L : Layout) (t : DTx) : List Char :=
  L.pre ++ (showDateD t ++ (L.g 0 ++ (layCmd L t ++ L.post)))

theorem pTrade_lay (L : Layout) (hL : L.ok) (kw kw' : List Char) (hk : kw'.map upper = kw) (hfee : Spells (L.kw "FEES".toList) "FEES".toList)
    (mk : DDec → DAmt → DAmt → DOp) (tk : List Char) (htk : tickerOk tk) (q : DDec) (p f : DAmt)
    (hq : canon q) (hp : amtOk p) (hf : amtOk f) :
    pTrade kw mk (kw' ++ (L.g 1 ++ (tk ++ (L.g 2 ++ (showDec q ++ (L.g 3 ++ (['@'] ++ (L.g 4 ++ (layAmt (L.g 5) p ++ (layOpt L 6 "FEES".toList f ++ L.post))))))))))
      = some (String.ofList tk, mk q p (normAmt f), L.post) := by
  have hg := hL.gap
  have hat : Spells ['@'] ['@'] := ⟨rfl, List.cons_ne_nil _ _, by decide⟩
  simp only [pTrade, matchKw_case _ _ _ hk, pTicker_gap (hg 1) htk (run_tokEnd _ _ (hg 2)),
    pDecimal_gap (hg 2) q hq (run_tokEnd _ _ (hg 3)),
    pClause_gap hat (hg 3) (hg 4) (hg 5) p hp _ (layOpt_tokEnd L hL 6 _ f), pOptClause_lay L hL 6 _ hfee f hf]

theorem pEvent_lay (L : Layout) (hL : L.ok) (kw kw' : List Char) (hk : kw'.map upper = kw) (tot : List Char) (htot : Spells tot "TOTAL".toList)
    (opt : List Char) (hopt : Spells (L.kw opt) opt)
    (mk : DDec → DAmt → DAmt → DOp) (tk : List Char) (htk : tickerOk tk) (q : DDec) (v x : DAmt)
    (hq : canon q) (hv : amtOk v) (hx : amtOk x) :
    pEvent kw opt mk (kw' ++ (L.g 1 ++ (tk ++ (L.g 2 ++ (showDec q ++ (L.g 3 ++ (tot ++ (L.g 4 ++ (layAmt (L.g 5) v ++ (layOpt L 6 opt x ++ L.post))))))))))
      = some (String.ofList tk, mk q v (normAmt x), L.post) := by
  have hg := hL.gap
  simp only [pEvent, matchKw_case _ _ _ hk, pTicker_gap (hg 1) htk (run_tokEnd _ _ (hg 2)),
    pDecimal_gap (hg 2) q hq (run_tokEnd _ _ (hg 3)),
    pClause_gap htot (hg 3) (hg 4) (hg 5) v hv _ (layOpt_tokEnd L hL 6 _ x), pOptClause_lay L hL 6 _ hopt x hx]

theorem pDividend_lay (L : Layout) (hL : L.ok) (kw' : List Char) (hk : kw'.map upper = "DIVIDEND".toList) (tot : List Char) (htot : Spells tot "TOTAL".toList)
    (htax : Spells (L.kw "TAX".toList) "TAX".toList) (tk : List Char) (htk : tickerOk tk) (v x : DAmt) (hv : amtOk v) (hx : amtOk x) :
    pDividend (kw' ++ (L.g 1 ++ (tk ++ (L.g 2 ++ (tot ++ (L.g 3 ++ (layAmt (L.g 4) v ++ (layOpt L 5 "TAX".toList x ++ L.post))))))))
      = some (String.ofList tk, .dividend v (normAmt x), L.post) := by
  have hg := hL.gap
  simp only [pDividend, matchKw_case _ _ _ hk, pTicker_gap (hg 1) htk (run_tokEnd _ _ (hg 2)),
    pClause_gap htot (hg 2) (hg 3) (hg 4) v hv _ (layOpt_tokEnd L hL 5 _ x), pOptClause_lay L hL 5 _ htax x hx]

theorem pSplit_lay (L : Layout) (hL : L.ok) (kw kw' : List Char) (hk : kw'.map upper = kw) (rat : List Char) (hrat : Spells rat "RATIO".toList)
    (mk : DDec → DOp) (tk : List Char) (htk : tickerOk tk) (r : DDec) (hr : canon r) :
    pSplit kw mk (kw' ++ (L.g 1 ++ (tk ++ (L.g 2 ++ (rat ++ (L.g 3 ++ (showDec r ++ L.post)))))))
      = some (String.ofList tk, mk r, L.post) := by
  have hg := hL.gap
  simp only [pSplit, matchKw_case _ _ _ hk, pTicker_gap (hg 1) htk (run_tokEnd _ _ (hg 2)),
    skipWC_gap (hg 2).run0 (hrat.2.vis.append _), matchKw_case rat _ _ hrat.1,
    pDecimal_gap (hg 3) r hr (trail_tokEnd _ hL.trail)]

theorem pTrade_none (kw : List Char) (mk : DDec → DAmt → DAmt → DOp) (cs : List Char) (h : matchKw kw cs = none) :
    pTrade kw mk cs = none := by unfold pTrade; rw [h]
theorem pEvent_none (kw opt : List Char) (mk : DDec → DAmt → DAmt → DOp) (cs : List Char) (h : matchKw kw cs = none) :
    pEvent kw opt mk cs = none := by unfold pEvent; rw [h]
theorem pDividend_none (cs : List Char) (h : matchKw "DIVIDEND".toList cs = none) : pDividend cs = none := by
  unfold pDividend; rw [h]
theorem pSplit_none (kw : List Char) (mk : DDec → DOp) (cs : List Char) (h : matchKw kw cs = none) :
    pSplit kw mk cs = none := by unfold pSplit; rw [h]

theorem vis_layCmd (L : Layout) (hL : L.ok) (t : DTx) : Vis (layCmd L t) := by
  obtain ⟨kBUY, kSELL, kDIV, kACC, kCAP, kSPL, kUNS, _⟩ := forall_kwAll hL.spells
  unfold layCmd
  cases t.op
  · exact kBUY.2.vis.append _
  · exact kSELL.2.vis.append _
  · exact kDIV.2.vis.append _
  · exact kACC.2.vis.append _
  · exact kCAP.2.vis.append _
  · exact kSPL.2.vis.append _
  · exact kUNS.2.vis.append _

/-- the keywords of `command`'s alternatives, in the order of its choice -/
def cmdKws : List (List Char) :=
  ["BUY".toList, "SELL".toList, "DIVIDEND".toList, "ACCUMULATION".toList, "CAPRETURN".toList, "SPLIT".toList,
   "UNSPLIT".toList]

example : kwAll = cmdKws ++ ["TOTAL".toList, "FEES".toList, "TAX".toList, "RATIO".toList] := rfl

theorem cmdKws_prefixFree : cmdKws.Pairwise (fun a b => ¬ a <+: b ∧ ¬ b <+: a) := by
  unfold cmdKws
  repeat rw [String.toList_ofList]
  decide +kernel

/-- the ordered choice: the alternatives before the right one fail on the keyword, whatever its case, because
    the command keywords are prefix-free (`xy` below: the keywords with the initials `x`, `y`; `p` is `SPLIT`) -/
theorem pCommand_lay (L : Layout) (hL : L.ok) (t : DTx) (htk : tickerOk t.ticker.toList) (hop : opOk t.op) :
    pCommand (layCmd L t ++ L.post) = some (t.ticker, normOp t.op, L.post) := by
  obtain ⟨kBUY, kSELL, kDIV, kACC, kCAP, kSPL, kUNS, kTOT, kFEES, kTAX, kRAT⟩ := forall_kwAll hL.spells
  have pf := cmdKws_prefixFree
  simp only [cmdKws, List.pairwise_cons, List.forall_mem_cons, List.not_mem_nil,
    false_imp_iff, implies_true, and_true, List.Pairwise.nil] at pf
  obtain ⟨⟨bs, bd, ba, bc, bp, bu⟩, ⟨sd, sa, sc, sp, su⟩, ⟨da, dc, dp, du⟩, ⟨ac, ap, au⟩, ⟨cp, cu⟩, pu⟩ := pf
  have no : ∀ {kw k : List Char}, Spells (L.kw k) k → (¬ kw <+: k ∧ ¬ k <+: kw) → ∀ rest, matchKw kw (L.kw k ++ rest) = none :=
    fun hk hp rest => matchKw_other _ _ _ rest hk.1 hp.1 hp.2
  cases hop' : t.op <;> rw [hop'] at hop <;> simp only [layCmd, hop', List.append_assoc] <;> unfold pCommand
  · rw [pTrade_lay L hL _ _ kBUY.1 kFEES .buy _ htk _ _ _ hop.1 hop.2.1 hop.2.2, String.ofList_toList]
    rfl
  · rw [pTrade_none _ _ _ (no kSELL bs _),
      pTrade_lay L hL _ _ kSELL.1 kFEES .sell _ htk _ _ _ hop.1 hop.2.1 hop.2.2, String.ofList_toList]
    rfl
  · rw [pTrade_none _ _ _ (no kDIV bd _), pTrade_none _ _ _ (no kDIV sd _),
      pDividend_lay L hL _ kDIV.1 _ kTOT kTAX _ htk _ _ hop.1 hop.2, String.ofList_toList]
    rfl
  · rw [pTrade_none _ _ _ (no kACC ba _), pTrade_none _ _ _ (no kACC sa _), pDividend_none _ (no kACC da _),
      pEvent_lay L hL _ _ kACC.1 _ kTOT _ kTAX .accumulation _ htk _ _ _ hop.1 hop.2.1 hop.2.2, String.ofList_toList]
    rfl
  · rw [pTrade_none _ _ _ (no kCAP bc _), pTrade_none _ _ _ (no kCAP sc _), pDividend_none _ (no kCAP dc _),
      pEvent_none _ _ _ _ (no kCAP ac _),
      pEvent_lay L hL _ _ kCAP.1 _ kTOT _ kFEES .capreturn _ htk _ _ _ hop.1 hop.2.1 hop.2.2, String.ofList_toList]
    rfl
  · rw [pTrade_none _ _ _ (no kSPL bp _), pTrade_none _ _ _ (no kSPL sp _), pDividend_none _ (no kSPL dp _),
      pEvent_none _ _ _ _ (no kSPL ap _), pEvent_none _ _ _ _ (no kSPL cp _),
      pSplit_lay L hL _ _ kSPL.1 _ kRAT .split _ htk _ hop, String.ofList_toList]
    rfl
  · rw [pTrade_none _ _ _ (no kUNS bu _), pTrade_none _ _ _ (no kUNS su _), pDividend_none _ (no kUNS du _),
      pEvent_none _ _ _ _ (no kUNS au _), pEvent_none _ _ _ _ (no kUNS cu _), pSplit_none _ _ _ (no kUNS pu _),
      pSplit_lay L hL _ _ kUNS.1 _ kRAT .unsplit _ htk _ hop, String.ofList_toList]
    rfl

theorem digit_facts (k : Nat) : isDigit (digitChar k) = true ∧ digitVal (digitChar k) = k % 10 := by
  have h : ∀ j, j < 10 → isDigit (Char.ofNat (48 + j)) = true ∧ digitVal (Char.ofNat (48 + j)) = j := by decide
  unfold digitChar
  exact h (k % 10) (Nat.mod_lt _ (by decide))

theorem natOf_pad2 (n : Nat) (h : n < 100) : natOf (pad2 n) = n := by
  simp only [pad2, natOf, List.foldl_cons, List.foldl_nil, (digit_facts _).2]
  omega

theorem natOf_pad4 (n : Nat) (h : n < 10000) : natOf (pad4 n) = n := by
  simp only [pad4, natOf, List.foldl_cons, List.foldl_nil, (digit_facts _).2]
  omega

theorem pDate_app (t : DTx) (hy : t.y < 10000) (hm : t.m < 100) (hd : t.d < 100) (rest : List Char) :
    pDate (showDateD t ++ rest) = some ((t.y, t.m, t.d), rest) := by
  have vy := natOf_pad4 t.y hy
  have vm := natOf_pad2 t.m hm
  have vd := natOf_pad2 t.d hd
  unfold showDateD
  unfold pad4 pad2 at *
  simp only [pDate, List.cons_append, List.nil_append, List.all_cons, List.all_nil, (digit_facts _).1,
    Bool.and_self, if_true, vy, vm, vd]

theorem word_date (t : DTx) : Word (showDateD t) := by
  have dg : ∀ k, digitChar k ∉ seps := fun k => not_sep_of_alnum (alnum_of_digit (digit_facts k).1)
  have da : '-' ∉ seps := by decide
  refine ⟨by simp [showDateD, pad4], ?_⟩
  simp only [showDateD, pad4, pad2, List.cons_append, List.nil_append, List.forall_mem_cons, dg, da,
    not_false_eq_true, true_and, List.not_mem_nil, false_imp_iff, implies_true]

theorem parseLine_render (L : Layout) (hL : L.ok) (t : DTx) (h : txOk t) : parseLine (render L t) = .tx (normTx t) := by
  obtain ⟨hy, hm, hd, htk, hop⟩ := h
  unfold parseLine render
  rw [skipWC_gap hL.1 ((word_date t).vis.append _)]
  split
  · rename_i heq
    obtain ⟨c, r, e, _⟩ := (word_date t).vis.append (L.g 0 ++ (layCmd L t ++ L.post))
    rw [e] at heq; cases heq
  · rw [pDate_app t hy hm hd]
    simp only
    rw [skipWC_gap (hL.gap 0).run0 ((vis_layCmd L hL t).append _), pCommand_lay L hL t htk hop]
    simp only [skipWC_trail L.post hL.trail]
    rfl

end Cgt.Dsl
