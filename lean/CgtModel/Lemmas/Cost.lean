import CgtModel.Lemmas.Conserve
/-! Allowable expenditure is conserved by the main pass: what the legs take plus what stays in the pool
    is what the purchases brought in. A 30-day leg is costed before the pass reaches its purchase: its cost is
    booked as a debt on that later day, claim × `dayUnit e` (`lookahead_cost`), and the debt is repaid when the
    day enters the pass with only `B − claimed` shares (the term `claimed * dayUnit d` of `dayStep_cost`). What
    every step keeps is `legCost + poolC' − claimCost` (`runDays_cost`). -/
namespace Cgt

/-- what the outstanding claims owe: each claim at the unit cost of its purchase day -/
def claimCost : List Day → List Rat → Rat
  | [], _ => 0
  | e :: rest, cl => cl.headD 0 * dayUnit e + claimCost rest cl.tail

theorem lookahead_cost (w : Int) (d0 : Date) (s : Trade) (rem k : Rat) (fs : List Day) (cl : List Rat) :
    claimCost fs (lookahead w d0 s rem k fs cl).1
      = claimCost fs cl + legCost (lookahead w d0 s rem k fs cl).2.1 := by
  induction rem, k, fs, cl using lookahead_induction w d0 s with
  | stop => simp [Rat.add_zero]
  | skip rem k e rest cl _ _ _ r _ ih =>
    simp only [claimCost, List.headD_cons, List.tail_cons, ih]
    grind
  | take rem k e rest cl b _ _ hb _ ms _ r _ ih =>
    simp only [claimCost, List.headD_cons, List.tail_cons, ih, legCost_cons, mkLeg_cost, dayUnit, hb]
    grind

theorem sameDayPart_cost (d : Day) (avail : Rat) (s : Trade) :
    legCost (sameDayPart d avail s).2 = (sameDayPart d avail s).1 * dayUnit d := by
  rcases sameDayPart_cases d avail s with ⟨e, -⟩ | ⟨b, hb, -, -, e⟩ <;> rw [e] <;> simp [dayUnit, Rat.add_zero, *]

theorem poolPart_cost (d : Day) (pool : Option Pool) (rem : Rat) (s : Trade) :
    legCost (poolPart d pool rem s).2.2 = poolC' pool - poolC' (poolPart d pool rem s).1 := by
  rcases poolPart_cases d pool rem s with ⟨e, -⟩ | ⟨p, rfl, -, -, -, -, e⟩ <;> rw [e] <;>
    simp [poolC'] <;> grind

theorem sellStep_cost {t : String} {w : Int} {d : Day} {st : MState} {s : Trade}
    {future : List Day} {cl : List Rat} {st' : MState} {cl' : List Rat} {legs : List Leg}
    (h : sellStep t w d st s future cl = .ok (st', cl', legs)) :
    legCost legs = (st.avail - st'.avail) * dayUnit d + (claimCost future cl' - claimCost future cl)
      + (poolC' st.pool - poolC' st'.pool) := by
  obtain ⟨sd, la, p3, rfl, rfl, rfl, -, -, rfl, rfl, rfl⟩ := sellStep_ok h
  rw [legCost_append, legCost_append, sameDayPart_cost, poolPart_cost, lookahead_cost]
  grind

theorem sellsStep_cost {t : String} {w : Int} {d : Day} {future : List Day} {ss : List Trade}
    {st : MState} {cl : List Rat} {st' : MState} {cl' : List Rat} {legs : List Leg}
    (h : sellsStep t w d future st ss cl = .ok (st', cl', legs)) :
    legCost legs = (st.avail - st'.avail) * dayUnit d + (claimCost future cl' - claimCost future cl)
      + (poolC' st.pool - poolC' st'.pool) := by
  induction h using sellsStep_induction with
  | nil =>
    simp only [legCost_nil]
    grind
  | cons st cl s ss st1 cl1 legs1 st2 cl2 legs2 h1 _ ih =>
    rw [legCost_append, sellStep_cost h1, ih]
    grind

def dayCost (d : Day) : Rat := match d.buy with | some b => b.q * b.p + b.f + d.offset | none => 0

/-- `d.B * unitCost = cost` fails for a zero-quantity BUY with a price (`unitCost` is then 0; the CLI's
    `report` accepts such a line because it does not run the validator: known finding D14);
    validator-clean ledgers meet this (`wellFormed_days`) -/
def buysNonzero : List Day → Prop
  | [] => True
  | d :: ds => (∀ b, d.buy = some b → b.q ≠ 0) ∧ buysNonzero ds

theorem buysNonzero_iff_forall : ∀ {ds : List Day}, buysNonzero ds ↔ ∀ d ∈ ds, ∀ b, d.buy = some b → b.q ≠ 0
  | [] => ⟨fun _ _ h => (nomatch h), fun _ => trivial⟩
  | d :: ds => by
    rw [List.forall_mem_cons, ← buysNonzero_iff_forall (ds := ds)]
    rfl

theorem buysNonzero_setOffsets (f : Day → Rat) : ∀ ds, buysNonzero ds → buysNonzero (C02.setOffsets f ds)
  | [], _ => trivial
  | _ :: ds, h => ⟨h.1, buysNonzero_setOffsets f ds h.2⟩

theorem poolAfter_cost (d : Day) (st : MState) (ha : 0 ≤ st.avail) :
    poolC' (poolAfter d st) = poolC' st.pool + st.avail * dayUnit d := (poolAfter_qc d st ha).2

theorem dayUnit_mul (d : Day) (hnz : ∀ b, d.buy = some b → b.q ≠ 0) : d.B * dayUnit d = dayCost d := by
  unfold dayUnit dayCost Day.B
  cases hb : d.buy with
  | none => simp
  | some b =>
    have := hnz b hb
    simp only [unitCost, ne_eq, this, not_false_eq_true, if_true]
    grind

theorem dayStep_cost {t : String} {w : Int} {pool : Option Pool} {d : Day} {claimed : Rat}
    {future : List Day} {cl : List Rat} {pool' : Option Pool} {cl' : List Rat} {legs : List Leg}
    (inv : DayInv d future pool claimed cl) (hnz : ∀ b, d.buy = some b → b.q ≠ 0)
    (h : dayStep t w pool d claimed future cl = .ok (pool', cl', legs)) :
    legCost legs + poolC' pool' - claimCost future cl'
      = poolC' pool - (claimed * dayUnit d + claimCost future cl) + dayCost d := by
  obtain ⟨sinv, st, hsells, rfl⟩ := inv.step_ok h
  obtain ⟨-, -, -, sinv', -⟩ := sellsStep_spec sinv inv.day.sells hsells
  rw [poolAfter_cost d st sinv'.avail, sellsStep_cost hsells, ← dayUnit_mul d hnz]
  grind

def totalDayCost : List Day → Rat
  | [] => 0
  | d :: ds => dayCost d + totalDayCost ds

theorem claimCost_nil : ∀ ds, claimCost ds [] = 0
  | [] => rfl
  | d :: ds => by
    simp only [claimCost, List.headD_nil, List.tail_nil]
    rw [claimCost_nil ds]
    grind

theorem runDays_cost {t : String} {w : Int} {ds : List Day} {pool : Option Pool} {cl : List Rat}
    {pool' : Option Pool} {legs : List Leg} (inv : RunInv ds pool cl) (hnz : buysNonzero ds)
    (h : runDays t w pool ds cl = .ok (pool', legs)) :
    legCost legs + poolC' pool' = poolC' pool - claimCost ds cl + totalDayCost ds := by
  induction h using runDays_induction with
  | nil =>
    simp only [legCost_nil, claimCost, totalDayCost]
    grind
  | cons d ds pool cl pool1 cl1 legs1 pool2 legs2 h1 _ ih =>
    have c1 := dayStep_cost inv.dayInv hnz.1 h1
    have c2 := ih (inv.step h1) hnz.2
    rw [legCost_append]
    simp only [claimCost, totalDayCost]
    grind

theorem runTicker_cost {t : String} {w : Int} {ds : List Day} {pool : Option Pool} {legs : List Leg}
    (hok : daysOk ds) (hnz : buysNonzero ds) (h : runTicker t w ds = .ok (pool, legs)) :
    ∃ lots, prepass t [] ds = .ok lots ∧
      legCost legs + poolC' pool = totalDayCost (C02.setOffsets (fun d => offsetFor d.ord lots) ds) := by
  obtain ⟨lots, hp, h⟩ := runTicker_ok h
  refine ⟨lots, hp, ?_⟩
  rw [runDays_cost (.start (daysOk_setOffsets _ ds hok)) (buysNonzero_setOffsets _ ds hnz) h,
    claimCost_nil]
  show (0 : Rat) - 0 + _ = _
  grind

end Cgt
