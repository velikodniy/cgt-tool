import CgtModel.Lemmas.LegShape
/-! Share conservation. The number the holding check looks at — today's unmatched purchase plus the pool
    less the outstanding claims in today's units — goes down by exactly `s.q` with every SELL
    (`SellPost.position`) and is multiplied by `d.r` when the day ends (`DayPost.position`); claims never
    exceed what the acquisition day's own disposals leave of its purchase (`claimsOk`); from the empty start
    that number is `netPos`. The words in which every property file states its results are defined here, between
    the lemmas that first need them: `poolQ'`, `poolC'`, `dayUnit`, `sellsOk`/`soldQty`, `Day.ok`/`daysOk`,
    `netPos`, `DayLegs`. -/
namespace Cgt

def claimsOk : List Day → List Rat → Prop
  | [], _ => True
  | e :: rest, cl =>
    0 ≤ cl.headD 0 ∧ cl.headD 0 + min e.B (max e.S 0) ≤ e.B ∧ claimsOk rest cl.tail

theorem claimsOk_nonneg : ∀ (fs : List Day) (cl : List Rat), claimsOk fs cl → ∀ m, m < fs.length → 0 ≤ cl.getD m 0
  | [], _, _, _, hm => absurd hm (Nat.not_lt_zero _)
  | _ :: rest, cl, h, 0, _ => by
    rw [← headD_getD]
    exact h.1
  | _ :: rest, cl, h, m + 1, hm => by
    rw [← getD_tail]
    exact claimsOk_nonneg rest cl.tail h.2.2 m (Nat.lt_of_succ_lt_succ hm)

def sdQty (ls : List Leg) : Rat := legQty (ls.filter (fun l => l.rule == .sameDay))

theorem lookahead_claimsOk (w : Int) (d0 : Date) (s : Trade) (rem k : Rat) (fs : List Day) (cl : List Rat) :
    0 < k → ratiosPos fs → claimsOk fs cl → claimsOk fs (lookahead w d0 s rem k fs cl).1 := by
  induction rem, k, fs, cl using lookahead_induction w d0 s with
  | stop =>
    intro _ _ h
    exact h
  | skip rem k e rest cl _ _ _ r _ ih =>
    intro hk hpos hok
    exact ⟨hok.1, hok.2.1, ih (Rat.mul_pos hk hpos.1) hpos.2 hok.2.2⟩
  | take rem k e rest cl b hrem _ _ ha ms hms r _ ih =>
    intro hk hpos hok
    have hmb0 : 0 ≤ ms * k :=
      Rat.mul_nonneg (hms ▸ take_nonneg (Rat.le_of_lt hrem) (Rat.le_of_lt ha) hk) (Rat.le_of_lt hk)
    have hmb : ms * k ≤ availFor e (cl.headD 0) := hms ▸ take_mul_le hk
    rw [availFor_of_pos ha] at hmb
    refine ⟨?_, ?_, ih (Rat.mul_pos hk hpos.1) hpos.2 hok.2.2⟩
    · have := hok.1
      simp only [List.headD_cons]
      grind
    · simp only [List.headD_cons]
      grind

theorem sdQty_append (a b : List Leg) : sdQty (a ++ b) = sdQty a + sdQty b := by
  simp [sdQty, legQty_append]

theorem sdQty_of_rule (ls : List Leg) (h : ∀ l ∈ ls, l.rule ≠ .sameDay) : sdQty ls = 0 := by
  unfold sdQty legQty
  exact rsum_filter_map_eq_zero _ fun l hl => by simpa using h l hl

theorem sameDayPart_spec (d : Day) (avail : Rat) (s : Trade) (ha : 0 ≤ avail) (hs : 0 ≤ s.q) :
    let r := sameDayPart d avail s
    legQty r.2 = r.1 ∧ sdQty r.2 = r.1 ∧ 0 ≤ r.1 ∧ r.1 ≤ avail ∧ r.1 ≤ s.q ∧ ∀ l ∈ r.2, 0 ≤ l.qty := by
  rcases sameDayPart_cases d avail s with ⟨e, -⟩ | ⟨b, -, -, -, e⟩ <;> rw [e]
  · simp [sdQty]
    exact ⟨ha, hs⟩
  · simp [sdQty, mkLeg]
    grind

/-- the pool's quantity, 0 before there is a pool; the model's `st.poolQ` is `poolQ' st.pool` by definition -/
def poolQ' (p : Option Pool) : Rat := match p with | some p => p.q | none => 0

theorem poolPart_spec (d : Day) (pool : Option Pool) (rem : Rat) (s : Trade)
    (hp : 0 ≤ poolQ' pool) (hr : 0 ≤ rem) :
    let r := poolPart d pool rem s
    legQty r.2.2 = rem - r.2.1 ∧ poolQ' r.1 = poolQ' pool - (rem - r.2.1) ∧ 0 ≤ poolQ' r.1 ∧
      0 ≤ r.2.1 ∧ sdQty r.2.2 = 0 ∧ ∀ l ∈ r.2.2, 0 ≤ l.qty := by
  rcases poolPart_cases d pool rem s with ⟨e, -⟩ | ⟨p, rfl, h, -, -, -, e⟩ <;> rw [e]
  · simp [sdQty]
    grind
  · simp [sdQty, mkLeg, poolQ'] at hp ⊢
    grind

/-- what the holding check of `process_sell` looks at; `SellPost.position` writes it out, with `st.poolQ` -/
def posOf (d : Day) (st : MState) (future : List Day) (cl : List Rat) : Rat :=
  st.avail + poolQ' st.pool - outK d.r future cl

structure SellInv (d : Day) (future : List Day) (st : MState) (cl : List Rat) : Prop where
  ratio : 0 < d.r
  ratios : ratiosPos future
  avail : 0 ≤ st.avail
  pool : 0 ≤ poolQ' st.pool
  claims : claimsOk future cl

structure SellPost (d : Day) (future : List Day) (st : MState) (cl : List Rat) (s : Trade)
    (st' : MState) (cl' : List Rat) (legs : List Leg) : Prop where
  qty : legQty legs = s.q
  legs_ok : ∀ l ∈ legs, 0 ≤ l.qty ∧ l.sellDate = d.date
  avail : st'.avail = st.avail - sdQty legs
  avail_nonneg : 0 ≤ st'.avail
  pool_nonneg : 0 ≤ st'.poolQ
  claims : claimsOk future cl'
  position : st'.avail + st'.poolQ - outK d.r future cl'
              = st.avail + st.poolQ - outK d.r future cl - s.q

theorem sellStep_spec {t : String} {w : Int} {d : Day} {st : MState} {s : Trade} {future : List Day}
    {cl : List Rat} {st' : MState} {cl' : List Rat} {legs : List Leg} (inv : SellInv d future st cl)
    (hs : 0 ≤ s.q) (h : sellStep t w d st s future cl = .ok (st', cl', legs)) :
    SellPost d future st cl s st' cl' legs := by
  have hfrom := sellStep_legs h
  obtain ⟨sd, la, p3, hsd, hla, hp3, -, hfull, rfl, rfl, rfl⟩ := sellStep_ok h
  obtain ⟨sd1, sd2, sd3, sd4, sd5, sd6⟩ := hsd ▸ sameDayPart_spec d st.avail s inv.avail hs
  have hrem : 0 ≤ s.q - sd.1 := by grind
  obtain ⟨l1, l2, l3, -, l5⟩ :=
    hla ▸ lookahead_accounts w d.date s (s.q - sd.1) d.r future cl inv.ratio inv.ratios hrem
  have lsd : sdQty la.2.1 = 0 := sdQty_of_rule _ fun l hl => by
    obtain ⟨_, _, _, _, _, rfl⟩ := lookahead_legs _ _ _ _ _ _ _ l (hla ▸ hl)
    nofun
  obtain ⟨p1, p2, p3', p4, p5, p6⟩ := hp3 ▸ poolPart_spec d st.pool la.2.2 s inv.pool l3
  have hzero : p3.2.1 = 0 := by grind
  refine ⟨?_, fun l hl => ⟨?_, (hfrom l hl).sellDate⟩, ?_, ?_, p3', ?_, ?_⟩
  · rw [legQty_append, legQty_append]
    grind
  · rcases List.mem_append.mp hl with hl | hl
    · rcases List.mem_append.mp hl with hl | hl
      · exact sd6 l hl
      · exact l5 l hl
    · exact p6 l hl
  · rw [sdQty_append, sdQty_append, sd2, lsd, p5]
    grind
  · show 0 ≤ st.avail - sd.1
    grind
  · exact hla ▸ lookahead_claimsOk w d.date s _ d.r future cl inv.ratio inv.ratios inv.claims
  · show st.avail - sd.1 + poolQ' p3.1 - _ = _ + poolQ' st.pool - _ - _
    grind

theorem SellPost.inv {d : Day} {future : List Day} {st : MState} {cl : List Rat} {s : Trade} {st' : MState}
    {cl' : List Rat} {legs : List Leg} (inv : SellInv d future st cl)
    (p : SellPost d future st cl s st' cl' legs) : SellInv d future st' cl' :=
  ⟨inv.ratio, inv.ratios, p.avail_nonneg, p.pool_nonneg, p.claims⟩

theorem SellPost.posOf {d : Day} {future : List Day} {st : MState} {cl : List Rat} {s : Trade} {st' : MState}
    {cl' : List Rat} {legs : List Leg} (p : SellPost d future st cl s st' cl' legs) :
    posOf d st' future cl' = posOf d st future cl - s.q := p.position

def sellsOk (ss : List Trade) : Prop := ∀ s ∈ ss, 0 ≤ s.q

def soldQty (ss : List Trade) : Rat := rsum (ss.map (·.q))

theorem sellsStep_spec {t : String} {w : Int} {d : Day} {future : List Day} {st : MState} {ss : List Trade}
    {cl : List Rat} {st' : MState} {cl' : List Rat} {legs : List Leg} (inv : SellInv d future st cl)
    (hs : sellsOk ss) (h : sellsStep t w d future st ss cl = .ok (st', cl', legs)) :
    legQty legs = soldQty ss ∧ (∀ l ∈ legs, 0 ≤ l.qty ∧ l.sellDate = d.date) ∧
    st'.avail = st.avail - sdQty legs ∧ SellInv d future st' cl' ∧
    posOf d st' future cl' = posOf d st future cl - soldQty ss := by
  induction h using sellsStep_induction with
  | nil st cl =>
    simp [sdQty, soldQty]
    exact ⟨by grind, inv, by grind⟩
  | cons st cl s ss st1 cl1 legs1 st2 cl2 legs2 h1 _ ih =>
    have p1 := sellStep_spec inv (hs s (by simp)) h1
    obtain ⟨q2, o2, a2, inv2, pos2⟩ := ih (p1.inv inv) fun x hx => hs x (by simp [hx])
    refine ⟨?_, ?_, ?_, inv2, ?_⟩
    · rw [legQty_append, p1.qty, q2]
      rfl
    · intro l hl
      rcases List.mem_append.mp hl with hl | hl
      · exact p1.legs_ok l hl
      · exact o2 l hl
    · rw [sdQty_append, a2, p1.avail]
      grind
    · rw [pos2, p1.posOf]
      simp only [soldQty, List.map_cons, rsum_cons]
      grind

def Day.ok (d : Day) : Prop := 0 < d.r ∧ sellsOk d.sells ∧ 0 ≤ d.B

def daysOk : List Day → Prop
  | [] => True
  | d :: ds => d.ok ∧ daysOk ds

theorem daysOk_ratiosPos : ∀ ds, daysOk ds → ratiosPos ds
  | [], _ => trivial
  | _ :: ds, h => ⟨h.1.1, daysOk_ratiosPos ds h.2⟩

theorem daysOk_iff_forall : ∀ {ds : List Day}, daysOk ds ↔ ∀ d ∈ ds, d.ok
  | [] => ⟨fun _ _ h => (nomatch h), fun _ => trivial⟩
  | d :: ds => by
    rw [List.forall_mem_cons, ← daysOk_iff_forall (ds := ds)]
    rfl

theorem daysOk_append {ps es : List Day} : daysOk (ps ++ es) ↔ daysOk ps ∧ daysOk es := by
  simp only [daysOk_iff_forall, List.forall_mem_append]

theorem sellsOk.soldQty_nonneg {ss : List Trade} (h : sellsOk ss) : 0 ≤ soldQty ss := rsum_map_nonneg _ h

theorem Day.ok.ratio {d : Day} (h : d.ok) : 0 < d.r := h.1
theorem Day.ok.sells {d : Day} (h : d.ok) : sellsOk d.sells := h.2.1
theorem Day.ok.B_nonneg {d : Day} (h : d.ok) : 0 ≤ d.B := h.2.2
theorem Day.ok.S_nonneg {d : Day} (h : d.ok) : 0 ≤ d.S := h.sells.soldQty_nonneg

theorem Day.S_eq (d : Day) : d.S = soldQty d.sells := rfl

theorem sdQty_nonneg (ls : List Leg) (h : ∀ l ∈ ls, 0 ≤ l.qty) : 0 ≤ sdQty ls :=
  rsum_map_nonneg _ fun l hl => h l (List.mem_filter.mp hl).1

def poolC' (p : Option Pool) : Rat := match p with | some p => p.c | none => 0

def dayUnit (d : Day) : Rat := match d.buy with | some b => unitCost b d.offset | none => 0

/-- `move_buy_to_pool`, then the day's split factor, in numbers -/
theorem poolAfter_qc (d : Day) (st : MState) (ha : 0 ≤ st.avail) :
    poolQ' (poolAfter d st) = (poolQ' st.pool + if d.buy = none then 0 else st.avail) * d.r ∧
    poolC' (poolAfter d st) = poolC' st.pool + st.avail * dayUnit d := by
  have h0 : ¬ st.avail > 0 → st.avail = 0 := fun h => by grind
  unfold poolAfter dayUnit
  cases hb : d.buy <;> cases hp : st.pool <;> by_cases hav : st.avail > 0 <;>
    simp [poolQ', poolC', hav] <;> grind

theorem poolAfter_q (d : Day) (st : MState) (ha : 0 ≤ st.avail) (hn : d.buy = none → st.avail = 0) :
    poolQ' (poolAfter d st) = (poolQ' st.pool + st.avail) * d.r := by
  rw [(poolAfter_qc d st ha).1]
  split
  · rw [hn ‹_›]
  · rfl

theorem buyStage_eq (t : String) (d : Day) (claimed : Rat) (hB : 0 ≤ d.B) (hc0 : 0 ≤ claimed)
    (hc1 : claimed + min d.B (max d.S 0) ≤ d.B) : buyStage t d claimed = .ok (d.B - claimed) := by
  unfold buyStage
  cases hb : d.buy with
  | none =>
    have := Day.B_none hb
    have : d.B - claimed = 0 := by grind
    rw [this]
  | some b =>
    have hB := Day.B_some hb
    have : ¬ claimed > b.q := by grind
    simp only [this, if_false, hB]

structure DayInv (d : Day) (future : List Day) (pool : Option Pool) (claimed : Rat) (cl : List Rat) : Prop where
  day : d.ok
  ratios : ratiosPos future
  pool : 0 ≤ poolQ' pool
  claimed_nonneg : 0 ≤ claimed
  claimed_fits : claimed + min d.B (max d.S 0) ≤ d.B
  claims : claimsOk future cl

theorem DayInv.claimed_le {d : Day} {future : List Day} {pool : Option Pool} {claimed : Rat} {cl : List Rat}
    (inv : DayInv d future pool claimed cl) : claimed ≤ d.B := by
  have := inv.day.B_nonneg
  have := inv.claimed_fits
  grind

theorem DayInv.step_ok {t : String} {w : Int} {pool : Option Pool} {d : Day} {claimed : Rat}
    {future : List Day} {cl : List Rat} {pool' : Option Pool} {cl' : List Rat} {legs : List Leg}
    (inv : DayInv d future pool claimed cl)
    (h : dayStep t w pool d claimed future cl = .ok (pool', cl', legs)) :
    SellInv d future ⟨pool, d.B - claimed⟩ cl ∧ ∃ st,
      sellsStep t w d future ⟨pool, d.B - claimed⟩ d.sells cl = .ok (st, cl', legs) ∧ pool' = poolAfter d st := by
  obtain ⟨a, st, hbuy, hsells, rfl⟩ := dayStep_ok h
  cases (buyStage_eq t d claimed inv.day.B_nonneg inv.claimed_nonneg inv.claimed_fits).symm.trans hbuy
  have hle := inv.claimed_le
  exact ⟨⟨inv.day.1, inv.ratios, by show 0 ≤ d.B - claimed; grind, inv.pool, inv.claims⟩, st, hsells, rfl⟩

structure DayPost (d : Day) (future : List Day) (pool : Option Pool) (claimed : Rat) (cl : List Rat)
    (pool' : Option Pool) (cl' : List Rat) (legs : List Leg) : Prop where
  qty : legQty legs = d.S
  legs_ok : ∀ l ∈ legs, 0 ≤ l.qty ∧ l.sellDate = d.date
  sameDay_fits : sdQty legs + claimed ≤ d.B
  pool_nonneg : 0 ≤ poolQ' pool'
  claims : claimsOk future cl'
  /-- claims are kept in their purchase day's units and `outK k` divides by `k · Π r` up to that day: while
      day `d` runs the conversion starts at `d.r`, for the next day it starts at 1 (`outK_scale`) -/
  position : poolQ' pool' - outK 1 future cl'
      = (poolQ' pool - claimed - outK d.r future cl + d.B - d.S) * d.r

theorem dayStep_spec {t : String} {w : Int} {pool : Option Pool} {d : Day} {claimed : Rat}
    {future : List Day} {cl : List Rat} {pool' : Option Pool} {cl' : List Rat} {legs : List Leg}
    (inv : DayInv d future pool claimed cl)
    (h : dayStep t w pool d claimed future cl = .ok (pool', cl', legs)) :
    DayPost d future pool claimed cl pool' cl' legs := by
  obtain ⟨sinv, st, hsells, rfl⟩ := inv.step_ok h
  obtain ⟨q1, o1, a1, sinv', pos1⟩ := sellsStep_spec sinv inv.day.sells hsells
  have hr := inv.day.ratio
  have hc0 := inv.claimed_nonneg
  have an1 := sinv'.avail
  have pn1 := sinv'.pool
  have hsd := sdQty_nonneg legs fun l hl => (o1 l hl).1
  have hfinal : poolQ' (poolAfter d st) = (poolQ' st.pool + st.avail) * d.r := by
    refine poolAfter_q d st an1 fun hb => ?_
    have := Day.B_none hb
    grind
  refine ⟨q1, o1, by grind, ?_, sinv'.claims, ?_⟩
  · rw [hfinal]
    exact Rat.mul_nonneg (by grind) (Rat.le_of_lt hr)
  · -- the SELLs' identity, with the claims re-expressed in tomorrow's units
    replace pos1 : st.avail + poolQ' st.pool - outK d.r future cl'
        = d.B - claimed + poolQ' pool - outK d.r future cl - soldQty d.sells := pos1
    rw [outK_scale future d.r cl' (by grind) inv.ratios] at pos1
    have : outK 1 future cl' / d.r * d.r = outK 1 future cl' := by grind
    rw [hfinal, Day.S_eq]
    grind

/-- the holding after the days of the list, entered with `p` shares in the first day's units -/
def netPos : Rat → List Day → Rat
  | p, [] => p
  | p, d :: ds => netPos ((p + d.B - d.S) * d.r) ds

/-- one block of legs per day of the list; that the blocks are the report's disposals (`groupByDate`) needs
    the day dates to differ (`daysOf_strict`) and is stated nowhere -/
inductive DayLegs : List Day → List Leg → Prop
  | nil : DayLegs [] []
  | cons (d : Day) (ds : List Day) (ls rest : List Leg) :
      (∀ l ∈ ls, 0 ≤ l.qty ∧ l.sellDate = d.date) → legQty ls = d.S → sdQty ls ≤ d.B →
      DayLegs ds rest → DayLegs (d :: ds) (ls ++ rest)

structure RunInv (ds : List Day) (pool : Option Pool) (cl : List Rat) : Prop where
  days : daysOk ds
  pool : 0 ≤ poolQ' pool
  claims : claimsOk ds cl

theorem claimsOk_nil : ∀ ds, daysOk ds → claimsOk ds []
  | [], _ => trivial
  | d :: ds, h => by
    refine ⟨by simp, ?_, claimsOk_nil ds h.2⟩
    have := h.1.B_nonneg
    simp only [List.headD_nil]
    grind

theorem RunInv.start {ds : List Day} (hok : daysOk ds) : RunInv ds none [] :=
  ⟨hok, Rat.le_refl, claimsOk_nil ds hok⟩

theorem RunInv.dayInv {d : Day} {ds : List Day} {pool : Option Pool} {cl : List Rat}
    (inv : RunInv (d :: ds) pool cl) : DayInv d ds pool (cl.headD 0) cl.tail :=
  ⟨inv.days.1, daysOk_ratiosPos ds inv.days.2, inv.pool, inv.claims.1, inv.claims.2.1, inv.claims.2.2⟩

theorem RunInv.step {t : String} {w : Int} {d : Day} {ds : List Day} {pool : Option Pool} {cl : List Rat}
    {pool1 : Option Pool} {cl1 : List Rat} {legs1 : List Leg} (inv : RunInv (d :: ds) pool cl)
    (h : dayStep t w pool d (cl.headD 0) ds cl.tail = .ok (pool1, cl1, legs1)) : RunInv ds pool1 cl1 :=
  have p := dayStep_spec inv.dayInv h
  ⟨inv.days.2, p.pool_nonneg, p.claims⟩

theorem runDays_spec {t : String} {w : Int} {ds : List Day} {pool : Option Pool} {cl : List Rat}
    {pool' : Option Pool} {legs : List Leg} (inv : RunInv ds pool cl)
    (h : runDays t w pool ds cl = .ok (pool', legs)) :
    poolQ' pool' = netPos (poolQ' pool - outK 1 ds cl) ds ∧ 0 ≤ poolQ' pool' ∧ DayLegs ds legs := by
  induction h using runDays_induction with
  | nil pool cl => exact ⟨by simp [netPos, outK]; grind, inv.pool, DayLegs.nil⟩
  | cons d ds pool cl pool1 cl1 legs1 pool2 legs2 h1 _ ih =>
    have p := dayStep_spec inv.dayInv h1
    obtain ⟨r1, r2, r3⟩ := ih (inv.step h1)
    have := inv.claims.1
    have := p.sameDay_fits
    refine ⟨?_, r2, DayLegs.cons d ds legs1 legs2 p.legs_ok p.qty (by grind) r3⟩
    rw [r1, p.position, netPos, outK_one_cons]
    congr 1
    grind

theorem daysOk_setOffsets (f : Day → Rat) : ∀ ds, daysOk ds → daysOk (C02.setOffsets f ds)
  | [], _ => trivial
  | _ :: ds, h => ⟨h.1, daysOk_setOffsets f ds h.2⟩

theorem netPos_setOffsets (f : Day → Rat) : ∀ ds p, netPos p (C02.setOffsets f ds) = netPos p ds
  | [], _ => rfl
  | _ :: ds, _ => netPos_setOffsets f ds _

theorem DayLegs_setOffsets (f : Day → Rat) :
    ∀ ds legs, DayLegs (C02.setOffsets f ds) legs → DayLegs ds legs
  | [], _, .nil => .nil
  | d :: ds, _, .cons _ _ ls rest h1 h2 h3 h4 => .cons d ds ls rest h1 h2 h3 (DayLegs_setOffsets f ds rest h4)

def C02.prodR : List Day → Rat
  | [] => 1
  | d :: ds => d.r * C02.prodR ds

/-- Σ_j (B_j − S_j) · Π_{m ≥ j} r_m -/
def C02.rescaledNet : List Day → Rat
  | [] => 0
  | d :: ds => (d.B - d.S) * C02.prodR (d :: ds) + C02.rescaledNet ds

theorem C02.netPos_eq (ds : List Day) : ∀ p : Rat, netPos p ds = p * C02.prodR ds + C02.rescaledNet ds := by
  induction ds with
  | nil =>
    intro p
    simp only [netPos, C02.prodR, Rat.mul_one, C02.rescaledNet]
    grind
  | cons d ds ih =>
    intro p
    simp only [netPos, C02.prodR, C02.rescaledNet]
    rw [ih]
    grind

theorem C02.ticker_conserves (t : String) (w : Int) (ds : List Day) (pool : Option Pool) (legs : List Leg)
    (hok : daysOk ds) (h : runTicker t w ds = .ok (pool, legs)) :
    DayLegs ds legs ∧ poolQ' pool = C02.rescaledNet ds ∧ 0 ≤ poolQ' pool := by
  obtain ⟨lots, -, h⟩ := runTicker_ok h
  obtain ⟨s1, s2, s3⟩ := runDays_spec (.start (daysOk_setOffsets _ ds hok)) h
  refine ⟨DayLegs_setOffsets _ ds legs s3, ?_, s2⟩
  rw [s1, outK_nil, netPos_setOffsets, C02.netPos_eq]
  simp only [poolQ']
  grind

end Cgt
