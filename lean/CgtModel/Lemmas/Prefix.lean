import CgtModel.Lemmas.Matcher
/-! Days that lie beyond every 30-day window of a history do not influence that history. From
    `outK_append_short` on every lemma carries `cl.length ≤ fs.length`: a claims list longer than `fs` would put
    claims on the appended days, which `outK` would read (the look-ahead stops before them whatever the claims:
    `lookahead_append_far` needs no bound); `lookahead_length` keeps the bound. -/
namespace Cgt

theorem lookahead_append_far (w : Int) (d0 : Date) (s : Trade) (es : List Day) (hfar : farFrom w d0 es)
    (fs : List Day) : ∀ (rem k : Rat) (cl : List Rat),
      lookahead w d0 s rem k (fs ++ es) cl = lookahead w d0 s rem k fs cl := by
  induction fs with
  | nil =>
    intro rem k cl
    exact lookahead_stop _ _ _ _ _ _ _ (.inr hfar)
  | cons f fs ih =>
    intro rem k cl
    simp only [List.cons_append, lookahead, ih]

theorem outK_append_short (es : List Day) (fs : List Day) : ∀ (k : Rat) (cl : List Rat),
    cl.length ≤ fs.length → outK k (fs ++ es) cl = outK k fs cl := by
  induction fs with
  | nil =>
    intro k cl h
    have : cl = [] := by cases cl <;> simp_all
    subst this
    rw [List.nil_append, outK_nil, outK_nil]
  | cons f fs ih =>
    intro k cl h
    simp only [List.cons_append, outK]
    rw [ih (k * f.r) cl.tail (by cases cl <;> simp_all <;> omega)]

theorem lookahead_length (w : Int) (d0 : Date) (s : Trade) (rem k : Rat) (fs : List Day) (cl : List Rat) :
    cl.length ≤ fs.length → (lookahead w d0 s rem k fs cl).1.length ≤ fs.length := by
  induction rem, k, fs, cl using lookahead_induction w d0 s with
  | stop => exact id
  | skip rem k e rest cl _ _ _ r _ ih | take rem k e rest cl b _ _ _ _ ms _ r _ ih =>
    intro h
    have := ih (by rw [List.length_tail]; simp only [List.length_cons] at h; omega)
    simp only [List.length_cons]
    omega

theorem sellStep_append (t : String) (w : Int) (d : Day) (st : MState) (s : Trade) (fs es : List Day)
    (cl : List Rat) (hfar : farFrom w d.date es) (hlen : cl.length ≤ fs.length) :
    sellStep t w d st s (fs ++ es) cl = sellStep t w d st s fs cl := by
  simp only [sellStep_eq, outK_append_short es fs d.r cl hlen, lookahead_append_far w d.date s es hfar fs]

theorem sellStep_claims_length {t : String} {w : Int} {d : Day} {st : MState} {s : Trade} {fs : List Day}
    {cl : List Rat} {st' : MState} {cl' : List Rat} {legs : List Leg}
    (h : sellStep t w d st s fs cl = .ok (st', cl', legs)) (hlen : cl.length ≤ fs.length) :
    cl'.length ≤ fs.length := by
  obtain ⟨sd, la, p3, -, rfl, -, -, -, -, rfl, -⟩ := sellStep_ok h
  exact lookahead_length _ _ _ _ _ _ _ hlen

theorem sellsStep_claims_length {t : String} {w : Int} {d : Day} {fs : List Day} {st : MState}
    {ss : List Trade} {cl : List Rat} {st' : MState} {cl' : List Rat} {legs : List Leg}
    (h : sellsStep t w d fs st ss cl = .ok (st', cl', legs)) (hlen : cl.length ≤ fs.length) :
    cl'.length ≤ fs.length := by
  induction h using sellsStep_induction with
  | nil => exact hlen
  | cons st cl s ss st1 cl1 legs1 st2 cl2 legs2 h1 _ ih =>
    exact ih (sellStep_claims_length h1 hlen)

theorem sellsStep_append (t : String) (w : Int) (d : Day) (fs es : List Day) (hfar : farFrom w d.date es)
    (ss : List Trade) : ∀ (st : MState) (cl : List Rat), cl.length ≤ fs.length →
      sellsStep t w d (fs ++ es) st ss cl = sellsStep t w d fs st ss cl := by
  induction ss with
  | nil =>
    intro st cl _
    rfl
  | cons s ss ih =>
    intro st cl hlen
    simp only [sellsStep]
    rw [sellStep_append t w d st s fs es cl hfar hlen]
    cases h1 : sellStep t w d st s fs cl with
    | error e => rfl
    | ok r =>
      obtain ⟨st1, cl1, legs1⟩ := r
      simp only
      rw [ih st1 cl1 (sellStep_claims_length h1 hlen)]

theorem dayStep_append (t : String) (w : Int) (pool : Option Pool) (d : Day) (claimed : Rat)
    (fs es : List Day) (cl : List Rat) (hfar : farFrom w d.date es) (hlen : cl.length ≤ fs.length) :
    dayStep t w pool d claimed (fs ++ es) cl = dayStep t w pool d claimed fs cl := by
  unfold dayStep
  cases buyStage t d claimed with
  | error e => rfl
  | ok a0 =>
    simp only
    rw [sellsStep_append t w d fs es hfar d.sells ⟨pool, a0⟩ cl hlen]

def allFar (w : Int) (ps es : List Day) : Prop := ∀ d ∈ ps, farFrom w d.date es

theorem allFar_of_forall {w : Int} {ps es : List Day} (h : ∀ d ∈ ps, ∀ e ∈ es, e.ord - d.ord > w) :
    allFar w ps es := by
  intro d hd
  cases es with
  | nil => trivial
  | cons e _ => exact h d hd e (List.mem_cons_self ..)

theorem runDays_append (t : String) (w : Int) (es : List Day) (ps : List Day) :
    ∀ (pool : Option Pool) (cl : List Rat), allFar w ps es → cl.length ≤ ps.length →
      runDays t w pool (ps ++ es) cl =
        (match runDays t w pool ps cl with
         | .error e => .error e
         | .ok (pool1, legs1) =>
           match runDays t w pool1 es [] with
           | .error e => .error e
           | .ok (pool2, legs2) => .ok (pool2, legs1 ++ legs2)) := by
  induction ps with
  | nil =>
    intro pool cl _ hlen
    have : cl = [] := by cases cl <;> simp_all
    subst this
    simp only [List.nil_append, runDays]
    cases runDays t w pool es [] with
    | error e => rfl
    | ok r =>
      obtain ⟨p, l⟩ := r
      simp
  | cons d ps ih =>
    intro pool cl hfar hlen
    have hfd : farFrom w d.date es := hfar d (by simp)
    have hfr : allFar w ps es := fun x hx => hfar x (by simp [hx])
    have ht : cl.tail.length ≤ ps.length := by cases cl <;> simp_all <;> omega
    simp only [List.cons_append, runDays]
    rw [dayStep_append t w pool d (cl.headD 0) ps es cl.tail hfd ht]
    cases h1 : dayStep t w pool d (cl.headD 0) ps cl.tail with
    | error e => rfl
    | ok r =>
      obtain ⟨pool1, cl1, legs1⟩ := r
      obtain ⟨_, _, _, hsells, _⟩ := dayStep_ok h1
      simp only
      rw [ih pool1 cl1 hfr (sellsStep_claims_length hsells ht)]
      cases runDays t w pool1 ps cl1 with
      | error e => rfl
      | ok r2 =>
        obtain ⟨pool2, legs2⟩ := r2
        simp only
        cases runDays t w pool2 es [] with
        | error e => rfl
        | ok r3 =>
          obtain ⟨p3, l3⟩ := r3
          simp [List.append_assoc]

end Cgt
