import CgtModel.Lemmas.Days
/-! Shape of one security's day list read off the raw ledger: a security without CAPRETURN /
    ACCUMULATION lines has no events in any of its days, and a security whose SELL lines fall on
    pairwise different days has at most one SELL per day after preprocessing. These turn the
    hypotheses of `C01_ledger` (stated on the preprocessed day list) into conditions on the input.
    For the SELLs: `sellOrds t l` lists the ordinal of every SELL line of `t`; a day has no more SELLs than
    its ordinal occurs there (`groupDays_sells`), and in a `Nodup` list a count is at most 1. Preprocessing
    only shortens that list: `preprocess_map_sublist` with the *list* `so t x` as key (fusing two SELLs
    loses one ordinal, so no single-valued key would do), then flattened by `sublist_flatten`
    (`preprocess_oneSellPerDay`). -/
namespace Cgt

def Op.isEvent : Op → Bool
  | .accumulation .. | .capreturn .. => true
  | _ => false

def noEventLines (t : String) (l : List Tx) : Prop := ∀ x ∈ l, x.ticker = t → x.op.isEvent = false

instance (t : String) (l : List Tx) : Decidable (noEventLines t l) :=
  inferInstanceAs (Decidable (∀ x ∈ l, x.ticker = t → x.op.isEvent = false))

theorem Op.fuse?_isEvent {a b o : Op} (h : a.fuse? b = some o) : o.isEvent = false := by
  cases a <;> cases b <;> cases h <;> rfl

theorem preprocess_noEventLines (t : String) (l : List Tx) (h : noEventLines t l) : noEventLines t (preprocess l) :=
  preprocess_forall (P := fun x => x.ticker = t → x.op.isEvent = false)
    (fun _ _ _ ho _ _ _ => Op.fuse?_isEvent ho) h

theorem Day.ofLine_noEv (i : Nat) (t : Tx) (h : t.op.isEvent = false) :
    (Day.ofLine i t).accs = [] ∧ (Day.ofLine i t).caps = [] := by
  unfold Day.ofLine
  cases hop : t.op <;> simp_all [Day.add, Op.isEvent]

theorem Day.merge_noEv (a b : Day) (ha : a.accs = [] ∧ a.caps = []) (hb : b.accs = [] ∧ b.caps = []) :
    (a.merge b).accs = [] ∧ (a.merge b).caps = [] := by
  simp [Day.merge, ha.1, ha.2, hb.1, hb.2]

theorem noEvents_of_raw (t : String) (l : List Tx) (h : noEventLines t l) : noEvents (daysOf t (preprocess l)) :=
  daysOf_forall (Q := fun d => d.accs = [] ∧ d.caps = []) Day.merge_noEv fun i x hx ht =>
    Day.ofLine_noEv i x (preprocess_noEventLines t l h x hx ht)

/-- one line's entry in `sellOrds`: `[x.ord]` if `x` is a SELL line of `t`, else `[]` -/
def so (t : String) (x : Tx) : List Int := if x.ticker = t ∧ x.op.isSell = true then [x.ord] else []
def sellOrds (t : String) (l : List Tx) : List Int := l.flatMap (so t)

def oneSellPerDay (t : String) (l : List Tx) : Prop := (sellOrds t l).Nodup

instance (t : String) (l : List Tx) : Decidable (oneSellPerDay t l) := inferInstanceAs (Decidable (sellOrds t l).Nodup)

@[simp] theorem sellOrds_nil (t : String) : sellOrds t [] = [] := rfl
@[simp] theorem sellOrds_cons (t : String) (x : Tx) (l : List Tx) : sellOrds t (x :: l) = so t x ++ sellOrds t l := by
  simp [sellOrds]
@[simp] theorem sellOrds_append (t : String) (a b : List Tx) : sellOrds t (a ++ b) = sellOrds t a ++ sellOrds t b := by
  simp [sellOrds]

theorem oneSellPerDay_perm {t : String} {l l' : List Tx} (hp : l.Perm l') (h : oneSellPerDay t l) :
    oneSellPerDay t l' :=
  ((List.Perm.flatMap_right (so t) hp).nodup_iff).mp h

theorem sellOrds_filter_ticker (t : String) : ∀ l : List Tx, sellOrds t (l.filter (fun x => x.ticker = t)) = sellOrds t l
  | [] => rfl
  | x :: xs => by
    rw [List.filter_cons, sellOrds_cons, ← sellOrds_filter_ticker t xs]
    by_cases h : x.ticker = t
    · rw [if_pos (decide_eq_true h), sellOrds_cons]
    · rw [if_neg (by simpa using h), show so t x = [] from if_neg fun hx => h hx.1, List.nil_append]

theorem Op.fuse?_isSell {a b o : Op} (h : a.fuse? b = some o) : o.isSell = a.isSell := by
  cases a <;> cases b <;> cases h <;> rfl

theorem sublist_flatten {α : Type} {L₁ L₂ : List (List α)} (h : L₁.Sublist L₂) : L₁.flatten.Sublist L₂.flatten := by
  induction h with
  | slnil => exact .slnil
  | cons a _ ih => exact ih.trans (List.sublist_append_right ..)
  | cons_cons a _ ih => exact ih.append_left a

theorem preprocess_oneSellPerDay (t : String) (l : List Tx) (h : oneSellPerDay t l) : oneSellPerDay t (preprocess l) := by
  unfold oneSellPerDay sellOrds at *
  rw [List.flatMap_def] at h ⊢
  refine (sublist_flatten (preprocess_map_sublist (k := so t) ?_ l)).nodup
    (((sortByDate_perm l).map _).flatten.nodup_iff.mpr h)
  intro c o' o ho
  simp [so, Op.fuse?_isSell ho, Tx.ord]

theorem Day.ofLine_sells (t : String) (i : Nat) (x : Tx) (hx : x.ticker = t) :
    (Day.ofLine i x).sells.length = (so t x).count x.ord := by
  unfold Day.ofLine so
  cases x.op <;> simp [Day.add, Op.isSell, hx]

theorem groupDays_sells (t : String) : ∀ xs : List (Nat × Tx), (∀ x ∈ xs, x.2.ticker = t) →
    ∀ d ∈ groupDays xs, d.sells.length ≤ (sellOrds t (xs.map (·.2))).count d.ord
  | [], _ => by simp [groupDays]
  | (i, x) :: xs, h => by
    have ⟨hx, hxs⟩ := List.forall_mem_cons.mp h
    have ih := groupDays_sells t xs hxs
    have hline : (Day.ofLine i x).sells.length ≤
        (sellOrds t (((i, x) :: xs).map (·.2))).count (Day.ofLine i x).ord := by
      rw [Day.ofLine_ord, List.map_cons, sellOrds_cons, List.count_append, Day.ofLine_sells t i x hx]
      exact Nat.le_add_right ..
    have hmono : ∀ e ∈ groupDays xs, e.sells.length ≤ (sellOrds t (((i, x) :: xs).map (·.2))).count e.ord := by
      intro e he
      rw [List.map_cons, sellOrds_cons, List.count_append]
      exact Nat.le_add_left_of_le (ih e he)
    rw [groupDays_cons]
    split
    · exact List.forall_mem_singleton.mpr hline
    · rename_i d ds hg
      rw [hg] at ih hmono
      split
      · rename_i heq
        refine List.forall_mem_cons.mpr ⟨?_, fun e he => hmono e (List.mem_cons_of_mem _ he)⟩
        show ((Day.ofLine i x).sells ++ d.sells).length ≤ _
        rw [Day.merge_ord, Day.ofLine_ord, List.map_cons, sellOrds_cons, List.count_append, List.length_append,
          Day.ofLine_sells t i x hx, ← heq]
        exact Nat.add_le_add_left (ih d (List.mem_cons_self ..)) _
      · exact List.forall_mem_cons.mpr ⟨hline, hmono⟩

theorem oneSell_of_raw (t : String) (l : List Tx) (h : oneSellPerDay t l) :
    ∀ d ∈ daysOf t (preprocess l), d.sells.length ≤ 1 := by
  intro d hd
  have h1 := groupDays_sells t _ (fun x hx => of_decide_eq_true (List.mem_filter.mp hx).2) d hd
  rw [lines_map_snd, sellOrds_filter_ticker] at h1
  exact Nat.le_trans h1 (List.nodup_iff_count.mp (preprocess_oneSellPerDay t l h) d.ord)

end Cgt
