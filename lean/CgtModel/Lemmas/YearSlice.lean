import CgtModel.Lemmas.Report
import CgtModel.Lemmas.LegShape
import CgtModel.Lemmas.Days
/-! From legs to a tax year's slice of the report: a leg is dated by the day that produced it; legs added
    at the end of a security's list whose disposal dates fail a date predicate leave the predicate's slice
    of that security's disposals as it was; lines dated outside a tax year leave its dividend totals as
    they were. -/
namespace Cgt

theorem runDays_sellDate (t : String) (w : Int) (ds : List Day) (pool pool' : Option Pool) (cl : List Rat)
    (legs : List Leg) (h : runDays t w pool ds cl = .ok (pool', legs)) :
    ∀ l ∈ legs, ∃ d ∈ ds, l.sellDate = d.date := fun l hl =>
  have ⟨d, _, hsuf, _, _, hfrom⟩ := runDays_legs h l hl
  ⟨d, hsuf.subset List.mem_cons_self, hfrom.sellDate⟩

theorem runTicker_sellDate (t : String) (w : Int) (ds : List Day) (pool : Option Pool) (legs : List Leg)
    (h : runTicker t w ds = .ok (pool, legs)) : ∀ l ∈ legs, ∃ d ∈ ds, l.sellDate = d.date := fun l hl =>
  have ⟨d, _, hsuf, _, _, hfrom⟩ := runTicker_legs h l hl
  ⟨d, hsuf.subset List.mem_cons_self, hfrom.sellDate⟩

theorem addLeg_filter (p : Date → Bool) (x : Leg) (hx : p x.sellDate = false) :
    ∀ acc : List (Date × List Leg), (addLeg x acc).filter (fun g => p g.1) = acc.filter (fun g => p g.1) := by
  intro acc
  induction acc with
  | nil => simp [addLeg, hx]
  | cons g rest ih =>
    obtain ⟨d, ls⟩ := g
    simp only [addLeg]
    split
    · rename_i hd
      simp only [List.filter_cons]
      rw [hd, hx]
      simp
    · simp only [List.filter_cons, ih]

theorem foldl_addLeg_filter (p : Date → Bool) : ∀ (legs2 : List Leg) (acc : List (Date × List Leg)),
    (∀ x ∈ legs2, p x.sellDate = false) →
    (legs2.foldl (fun acc l => addLeg l acc) acc).filter (fun g => p g.1) = acc.filter (fun g => p g.1) := by
  intro legs2
  induction legs2 with
  | nil => intro acc _; rfl
  | cons x xs ih =>
    intro acc h
    simp only [List.foldl_cons]
    rw [ih _ (fun y hy => h y (by simp [hy])), addLeg_filter p x (h x (by simp))]

theorem groupLegs_append_filter (dp : Nat) (t : String) (p : Date → Bool) (legs1 legs2 : List Leg)
    (h : ∀ x ∈ legs2, p x.sellDate = false) :
    (groupLegs dp t (legs1 ++ legs2)).filter (fun d => p d.date) = (groupLegs dp t legs1).filter (fun d => p d.date) := by
  unfold groupLegs groupByDate
  rw [List.foldl_append, List.filter_map, List.filter_map]
  exact congrArg _ (foldl_addLeg_filter p legs2 _ h)

theorem dividendsOf_append_left (l s : List Tx) (y : Int) (hy : ∀ b ∈ s, inYear y b.date = false) :
    dividendsOf (l ++ s) y = dividendsOf l y := by
  have : s.filter (isDivIn y) = [] := by
    rw [List.filter_eq_nil_iff]
    intro b hb
    unfold isDivIn
    split
    · rw [hy b hb]
      simp
    · simp
  unfold dividendsOf
  rw [List.filter_append, this, List.append_nil]

end Cgt
