import CgtModel.Lemmas.Matcher
/-! The look-ahead moves quantity from the disposal's remainder into the claims on later purchases, one for
    one once converted by the split factors between (`lookahead_accounts`). Before that: `ratiosPos` (the
    factors are positive, so the conversion can be undone, `outK_scale`) and the arithmetic of a single take,
    `min rem (a / k)`. -/
namespace Cgt

def ratiosPos : List Day → Prop
  | [] => True
  | e :: rest => 0 < e.r ∧ ratiosPos rest

theorem outK_scale (fs : List Day) : ∀ (k : Rat) (cl : List Rat), k ≠ 0 → ratiosPos fs →
    outK k fs cl = outK 1 fs cl / k := by
  induction fs with
  | nil =>
    intro k cl _ _
    simp only [outK]
    grind
  | cons e rest ih =>
    intro k cl hk hp
    obtain ⟨her, hrest⟩ := hp
    have her0 : e.r ≠ 0 := by grind
    have hke : k * e.r ≠ 0 := by grind
    have h1e : (1 : Rat) * e.r ≠ 0 := by grind
    simp only [outK]
    rw [ih (k * e.r) cl.tail hke hrest, ih (1 * e.r) cl.tail h1e hrest]
    grind

theorem take_nonneg {rem a k : Rat} (hrem : 0 ≤ rem) (ha : 0 ≤ a) (hk : 0 < k) : 0 ≤ min rem (a / k) := by
  have := rat_div_nonneg ha hk
  grind

theorem take_mul_le {rem a k : Rat} (hk : 0 < k) : min rem (a / k) * k ≤ a := by
  have h1 : a / k * k = a := by grind
  have h2 : min rem (a / k) ≤ a / k := by grind
  have := Rat.mul_le_mul_of_nonneg_right h2 (Rat.le_of_lt hk)
  grind

theorem take_all {rem a k : Rat} (hk : 0 < k) (h : min rem (a / k) < rem) : min rem (a / k) * k = a := by
  have : min rem (a / k) = a / k := by grind
  rw [this]
  grind

theorem availFor_exhausted {e : Day} {c : Rat} (h : 0 < availFor e c) : availFor e (c + availFor e c) ≤ 0 := by
  unfold availFor at h ⊢
  grind

theorem availFor_of_pos {e : Day} {c : Rat} (h : 0 < availFor e c) :
    availFor e c = e.B - min e.B (max e.S 0) - c := by
  unfold availFor at h ⊢
  grind

theorem lookahead_accounts (w : Int) (d0 : Date) (s : Trade) (rem k : Rat) (fs : List Day) (cl : List Rat) :
    0 < k → ratiosPos fs → 0 ≤ rem →
      let r := lookahead w d0 s rem k fs cl
      legQty r.2.1 = rem - r.2.2 ∧ outK k fs r.1 = outK k fs cl + (rem - r.2.2) ∧
        0 ≤ r.2.2 ∧ r.2.2 ≤ rem ∧ ∀ l ∈ r.2.1, 0 ≤ l.qty := by
  induction rem, k, fs, cl using lookahead_induction w d0 s with
  | stop rem k fs cl _ =>
    intro _ _ h
    simp
    grind
  | skip rem k e rest cl _ _ _ r _ ih =>
    intro hk hpos hrem
    have ⟨h1, h2, h3⟩ := ih (Rat.mul_pos hk hpos.1) hpos.2 hrem
    simp only [outK, List.headD_cons, List.tail_cons]
    exact ⟨h1, by rw [h2]; grind, h3⟩
  | take rem k e rest cl b _ _ _ ha ms hms r _ ih =>
    intro hk hpos hrem
    have hms0 : 0 ≤ ms := hms ▸ take_nonneg hrem (Rat.le_of_lt ha) hk
    have hle : ms ≤ rem := by grind
    have ⟨h1, h2, h3, h4, h5⟩ := ih (Rat.mul_pos hk hpos.1) hpos.2 (by grind)
    simp only [outK, List.headD_cons, List.tail_cons, legQty_cons, mkLeg_qty, add_mul_div _ _ hk]
    refine ⟨by grind, by grind, h3, by grind, ?_⟩
    intro l hl
    rcases List.mem_cons.mp hl with rfl | hl
    · exact hms0
    · exact h5 l hl

end Cgt
