import CgtModel.Lemmas.Spec
import CgtModel.Lemmas.Days
/-! `Spec`'s day table as a fold of insertions (`insFold`): where a line goes (`insert_nil/lt/eq/gt`), that the
    table stays in date order, and that insertion steps commute when dates are told apart by their ordinals
    (`DatesOk`), so the table and with it the whole statutory evaluation depend only on the *multiset* of a
    security's lines. Two same-day fills with the same total quantity, consideration and fees are absorbed as
    the one trade. -/
-- irreducible because otherwise, where a first attempt at `h ▸ a` or `rw … at` between dates and day numbers fails,
-- the elaborator goes on to unfold `Date.ord` into the calendar arithmetic, which is slow to check
attribute [local irreducible] Cgt.Date.ord
namespace Cgt.Spec
open Cgt

theorem absorb_date (d : SDay) (o : Op) : (d.absorb o).date = d.date := by
  cases o <;> rfl

theorem insert_nil (t : Tx) : insert t [] = [({ date := t.date } : SDay).absorb t.op] := rfl

theorem insert_lt {t : Tx} {d : SDay} (h : t.date.ord < d.date.ord) (ds : List SDay) :
    insert t (d :: ds) = ({ date := t.date } : SDay).absorb t.op :: d :: ds := by
  rw [insert, if_pos h]

theorem insert_eq {t : Tx} {d : SDay} (h : t.date.ord = d.date.ord) (ds : List SDay) :
    insert t (d :: ds) = d.absorb t.op :: ds := by
  rw [insert, if_neg (by omega), if_pos h]

theorem insert_gt {t : Tx} {d : SDay} (h : d.date.ord < t.date.ord) (ds : List SDay) :
    insert t (d :: ds) = d :: insert t ds := by
  rw [insert, if_neg (by omega), if_neg (by omega)]

/-! Quantities and money of one day add up and split factors multiply (`SDay.plus`); a line acts on the day
    by adding what it contributes (`delta`). That the order of a day's lines does not matter (`absorb_comm`)
    and that a day can be built from either end (`fresh_plus_plus`, for `groupDays` in SpecTable) are facts
    about this sum. -/

theorem SDay.ext' (a b : SDay) (h1 : a.date = b.date) (h2 : a.B = b.B) (h3 : a.Bcost = b.Bcost) (h4 : a.S = b.S)
    (h5 : a.Sgross = b.Sgross) (h6 : a.Sfees = b.Sfees) (h7 : a.r = b.r) : a = b := by
  cases a; cases b; simp_all

def SDay.plus (a b : SDay) : SDay :=
  { date := a.date, B := a.B + b.B, Bcost := a.Bcost + b.Bcost, S := a.S + b.S,
    Sgross := a.Sgross + b.Sgross, Sfees := a.Sfees + b.Sfees, r := a.r * b.r }

/-- the date is a dummy: `plus` keeps the first record's -/
def delta (op : Op) : SDay := ({ date := ⟨0, 1, 1⟩ } : SDay).absorb op

theorem absorb_eq_plus (d : SDay) (op : Op) : d.absorb op = d.plus (delta op) := by
  cases op <;> simp [SDay.absorb, SDay.plus, delta, Rat.add_zero, Rat.zero_add, Rat.mul_one, Rat.one_mul, Rat.add_assoc]

theorem SDay.plus_right_comm (a b c : SDay) : (a.plus b).plus c = (a.plus c).plus b := by
  apply SDay.ext' <;> simp only [SDay.plus] <;> grind

theorem SDay.fresh_plus_plus (d x : SDay) : (({ date := d.date } : SDay).plus x).plus d = d.plus x := by
  apply SDay.ext' <;> simp only [SDay.plus] <;> grind

theorem absorb_comm (d : SDay) (o1 o2 : Op) : (d.absorb o1).absorb o2 = (d.absorb o2).absorb o1 := by
  rw [absorb_eq_plus, absorb_eq_plus, absorb_eq_plus d o2, absorb_eq_plus, SDay.plus_right_comm]

theorem absorb_ord (d : SDay) (o : Op) : (d.absorb o).date.ord = d.date.ord :=
  congrArg Date.ord (absorb_date d o)

theorem insert_comm_lt {t1 t2 : Tx} (h : t1.date.ord < t2.date.ord) :
    ∀ acc : List SDay, insert t1 (insert t2 acc) = insert t2 (insert t1 acc)
  | [] => by
    rw [insert_nil, insert_nil, insert_lt (by rw [absorb_ord]; exact h), insert_gt (by rw [absorb_ord]; exact h),
      insert_nil]
  | d :: ds => by
    rcases Int.lt_trichotomy t2.date.ord d.date.ord with h2 | h2 | h2
    · rw [insert_lt h2, insert_lt (Int.lt_trans h h2), insert_lt (by rw [absorb_ord]; exact h),
        insert_gt (by rw [absorb_ord]; exact h), insert_lt h2]
    · have h1 : t1.date.ord < d.date.ord := h2 ▸ h
      rw [insert_eq h2, insert_lt h1, insert_lt (by rw [absorb_ord]; exact h1),
        insert_gt (by rw [absorb_ord]; exact h), insert_eq h2]
    · rcases Int.lt_trichotomy t1.date.ord d.date.ord with h1 | h1 | h1
      · rw [insert_gt h2, insert_lt h1, insert_lt h1, insert_gt (by rw [absorb_ord]; exact h), insert_gt h2]
      · rw [insert_gt h2, insert_eq h1, insert_eq h1, insert_gt (by rw [absorb_ord]; exact h2)]
      · rw [insert_gt h2, insert_gt h1, insert_gt h1, insert_gt h2, insert_comm_lt h ds]

theorem insert_comm_eq {t1 t2 : Tx} (hd : t1.date = t2.date) :
    ∀ acc : List SDay, insert t1 (insert t2 acc) = insert t2 (insert t1 acc)
  | [] => by
    rw [insert_nil, insert_nil, insert_eq (by rw [absorb_ord, hd]), insert_eq (by rw [absorb_ord, hd]), hd, absorb_comm]
  | d :: ds => by
    rcases Int.lt_trichotomy t1.date.ord d.date.ord with h | h | h
    · have h' : t2.date.ord < d.date.ord := hd ▸ h
      rw [insert_lt h', insert_lt h, insert_eq (by rw [absorb_ord, hd]), insert_eq (by rw [absorb_ord, hd]), hd,
        absorb_comm]
    · have h' : t2.date.ord = d.date.ord := hd ▸ h
      rw [insert_eq h', insert_eq h, insert_eq (by rw [absorb_ord]; exact h), insert_eq (by rw [absorb_ord]; exact h'),
        absorb_comm]
    · have h' : d.date.ord < t2.date.ord := hd ▸ h
      rw [insert_gt h', insert_gt h, insert_gt h, insert_gt h', insert_comm_eq hd ds]

theorem insert_pair (t1 t2 tm : Tx) (h2 : t2.date = t1.date) (hm : tm.date = t1.date)
    (hop : ∀ d : SDay, (d.absorb t1.op).absorb t2.op = d.absorb tm.op) :
    ∀ acc : List SDay, insert t2 (insert t1 acc) = insert tm acc
  | [] => by
    rw [insert_nil, insert_nil, insert_eq (by rw [absorb_ord, h2]), hop, hm]
  | d :: ds => by
    have e2 : t2.date.ord = t1.date.ord := congrArg Date.ord h2
    have em : tm.date.ord = t1.date.ord := congrArg Date.ord hm
    rcases Int.lt_trichotomy t1.date.ord d.date.ord with a | a | a
    · rw [insert_lt a, insert_eq (by rw [absorb_ord, e2]), insert_lt (em ▸ a), hop, hm]
    · rw [insert_eq a, insert_eq (by rw [absorb_ord, e2, a]), insert_eq (em ▸ a), hop]
    · rw [insert_gt a, insert_gt (e2 ▸ a), insert_gt (em ▸ a), insert_pair t1 t2 tm h2 hm hop ds]

theorem insert_comm (t1 t2 : Tx) (hinj : t1.date.ord = t2.date.ord → t1.date = t2.date) (acc : List SDay) :
    insert t1 (insert t2 acc) = insert t2 (insert t1 acc) :=
  match Int.lt_trichotomy t1.date.ord t2.date.ord with
  | .inl h => insert_comm_lt h acc
  | .inr (.inl h) => insert_comm_eq (hinj h) acc
  | .inr (.inr h) => (insert_comm_lt h acc).symm

def SSorted (T : List SDay) : Prop := T.Pairwise (fun a b => a.date.ord < b.date.ord)

theorem insert_head_le (x : Tx) : ∀ (T : List SDay), ∃ h tl, insert x T = h :: tl ∧ h.date.ord ≤ x.date.ord
  | [] => ⟨_, _, rfl, by rw [absorb_date]; exact Int.le_refl _⟩
  | d :: ds => by
    rcases Int.lt_trichotomy x.date.ord d.date.ord with h | h | h
    · exact ⟨_, _, insert_lt h ds, by rw [absorb_date]; exact Int.le_refl _⟩
    · exact ⟨_, _, insert_eq h ds, by rw [absorb_date]; omega⟩
    · exact ⟨_, _, insert_gt h ds, by omega⟩

theorem insert_mem_date (x : Tx) : ∀ (T : List SDay), ∀ e ∈ insert x T, e.date.ord = x.date.ord ∨ ∃ d ∈ T, e.date = d.date := by
  intro T
  induction T with
  | nil => intro e he; cases List.mem_singleton.mp he; exact .inl (by rw [absorb_date])
  | cons d ds ih =>
    intro e he
    have hold : ∀ e ∈ d :: ds, ∃ d' ∈ d :: ds, e.date = d'.date := fun e he => ⟨e, he, rfl⟩
    rcases Int.lt_trichotomy x.date.ord d.date.ord with h | h | h
    · rw [insert_lt h] at he
      rcases List.mem_cons.mp he with rfl | he
      · exact .inl (by rw [absorb_date])
      · exact .inr (hold e he)
    · rw [insert_eq h] at he
      rcases List.mem_cons.mp he with rfl | he
      · exact .inr ⟨d, List.mem_cons_self .., absorb_date _ _⟩
      · exact .inr (hold e (List.mem_cons_of_mem _ he))
    · rw [insert_gt h] at he
      rcases List.mem_cons.mp he with rfl | he
      · exact .inr (hold e (List.mem_cons_self ..))
      · exact (ih e he).imp id fun ⟨d', hd', hdd⟩ => ⟨d', List.mem_cons_of_mem _ hd', hdd⟩

theorem insert_sorted (x : Tx) : ∀ (T : List SDay), SSorted T → SSorted (insert x T) := by
  intro T
  induction T with
  | nil => intro _; exact List.pairwise_singleton _ _
  | cons d ds ih =>
    intro hs
    have hs' := List.pairwise_cons.mp hs
    rcases Int.lt_trichotomy x.date.ord d.date.ord with h | h | h
    · rw [insert_lt h]
      refine List.pairwise_cons.mpr ⟨fun e he => ?_, hs⟩
      rw [absorb_date]
      rcases List.mem_cons.mp he with rfl | he
      · exact h
      · exact Int.lt_trans h (hs'.1 e he)
    · rw [insert_eq h]
      exact List.pairwise_cons.mpr ⟨fun e he => by rw [absorb_date]; exact hs'.1 e he, hs'.2⟩
    · rw [insert_gt h]
      refine List.pairwise_cons.mpr ⟨fun e he => ?_, ih hs'.2⟩
      rcases insert_mem_date x ds e he with h' | ⟨d', hd', hdd⟩
      · omega
      · rw [hdd]; exact hs'.1 d' hd'

theorem DatesOk.filter {l : List Tx} (hd : DatesOk l) (p : Tx → Bool) : DatesOk (l.filter p) :=
  fun x hx => hd x (List.mem_filter.mp hx).1

theorem tickers_perm_mem (l l' : List Tx) (hp : l.Perm l') (t : String) : t ∈ tickers l ↔ t ∈ tickers l' := by
  unfold tickers
  simp only [List.mem_eraseDups, List.mem_map]
  constructor
  · rintro ⟨x, hx, rfl⟩; exact ⟨x, hp.mem_iff.mp hx, rfl⟩
  · rintro ⟨x, hx, rfl⟩; exact ⟨x, hp.mem_iff.mpr hx, rfl⟩

theorem absorb_fills_buy (d : SDay) {q1 p1 f1 q2 p2 f2 q p f : Rat}
    (hq : q1 + q2 = q) (hc : q1 * p1 + q2 * p2 = q * p) (hf : f1 + f2 = f) :
    (d.absorb (.buy q1 p1 f1)).absorb (.buy q2 p2 f2) = d.absorb (.buy q p f) := by
  simp only [SDay.absorb, SDay.mk.injEq, true_and, and_true]
  constructor <;> grind

theorem absorb_fills_sell (d : SDay) {q1 p1 f1 q2 p2 f2 q p f : Rat}
    (hq : q1 + q2 = q) (hc : q1 * p1 + q2 * p2 = q * p) (hf : f1 + f2 = f) :
    (d.absorb (.sell q1 p1 f1)).absorb (.sell q2 p2 f2) = d.absorb (.sell q p f) := by
  simp only [SDay.absorb, SDay.mk.injEq, true_and, and_true]
  refine ⟨?_, ?_, ?_⟩ <;> grind

end Cgt.Spec

namespace Cgt
open Spec

def insFold (t : String) (acc : List SDay) (l : List Tx) : List SDay :=
  (l.filter (fun x => x.ticker = t)).foldl (fun a x => Spec.insert x a) acc

theorem table_eq_insFold (t : String) (l : List Tx) : table t l = insFold t [] l := rfl

theorem insFold_cons (t : String) (acc : List SDay) (x : Tx) (xs : List Tx) :
    insFold t acc (x :: xs) = if x.ticker = t then insFold t (Spec.insert x acc) xs else insFold t acc xs := by
  unfold insFold
  by_cases h : x.ticker = t
  · simp [h]
  · simp [h]

theorem insFold_append (t : String) (acc : List SDay) (a b : List Tx) :
    insFold t acc (a ++ b) = insFold t (insFold t acc a) b := by
  unfold insFold; simp [List.filter_append, List.foldl_append]

theorem insFold_perm (t : String) (acc : List SDay) (l l' : List Tx) (hp : l.Perm l') (hd : DatesOk l) :
    insFold t acc l = insFold t acc l' :=
  have hd' := hd.filter fun x => x.ticker = t
  (hp.filter _).foldl_eq' (fun x hx y hy z => Spec.insert_comm y x (ord_inj _ _ (hd' y hy) (hd' x hx)) z) acc

theorem Spec.insFold_sorted (t : String) : ∀ (l : List Tx) (acc : List SDay), SSorted acc → SSorted (insFold t acc l)
  | [], _, h => h
  | x :: xs, acc, h => by
    rw [insFold_cons]
    split
    · exact Spec.insFold_sorted t xs _ (insert_sorted x acc h)
    · exact Spec.insFold_sorted t xs acc h

theorem Spec.table_sorted (t : String) (l : List Tx) : SSorted (table t l) :=
  Spec.insFold_sorted t l [] List.Pairwise.nil

theorem Spec.table_snoc (t : String) (l : List Tx) (x : Tx) (hx : x.ticker = t) : table t (l ++ [x]) = Spec.insert x (table t l) := by
  rw [table_eq_insFold, insFold_append, insFold_cons, if_pos hx]; rfl

/-- stated in the shape of `Absorb.fuse`, the step of the ledger's two merging passes -/
theorem insFold_merged (t : String) (acc : List SDay) (cur nxt : Tx) (op : Op)
    (hdate : nxt.date = cur.date) (hticker : nxt.ticker = cur.ticker)
    (hop : ∀ d : SDay, (d.absorb cur.op).absorb nxt.op = d.absorb op) (rest : List Tx) :
    insFold t acc ({ cur with op := op } :: rest) = insFold t acc (cur :: nxt :: rest) := by
  simp only [insFold_cons, hticker]
  by_cases ht : cur.ticker = t
  · simp only [if_pos ht]
    exact congrArg (insFold t · rest) (insert_pair cur nxt { cur with op := op } hdate rfl hop acc).symm
  · simp only [if_neg ht]

theorem Spec.table_fills (ticker t : String) (D : Date) (q1 p1 f1 q2 p2 f2 q p f : Rat)
    (hq : q1 + q2 = q) (hc : q1 * p1 + q2 * p2 = q * p) (hf : f1 + f2 = f) (l0 : List Tx) :
    table ticker (l0 ++ [⟨D, t, .buy q1 p1 f1⟩, ⟨D, t, .buy q2 p2 f2⟩]) = table ticker (l0 ++ [⟨D, t, .buy q p f⟩]) := by
  rw [table_eq_insFold, table_eq_insFold, insFold_append, insFold_append]
  exact (insFold_merged ticker _ ⟨D, t, .buy q1 p1 f1⟩ ⟨D, t, .buy q2 p2 f2⟩ (.buy q p f) rfl rfl
    (fun d => Spec.absorb_fills_buy d hq hc hf) []).symm

theorem Spec.table_filter (t : String) (l : List Tx) : table t (l.filter (fun x => x.ticker = t)) = table t l := by
  unfold table
  rw [List.filter_filter]
  congr 1
  apply List.filter_congr
  intro x _
  simp

theorem Spec.table_perm (ticker : String) (l l' : List Tx) (hp : l.Perm l') (hd : DatesOk l) :
    table ticker l = table ticker l' :=
  insFold_perm ticker [] l l' hp hd

end Cgt
