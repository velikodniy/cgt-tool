/-! Exact-rational helpers: powers of ten, the two rounding modes the code uses,
    sums over lists. Core Lean only (the driver is linked natively). -/
namespace Cgt

def pow10 (n : Nat) : Rat := ((10 ^ n : Nat) : Rat)

def rabs (x : Rat) : Rat := if x < 0 then -x else x

/-- `round_dp_with_strategy(n, MidpointAwayFromZero)` -/
def roundHalfAway (n : Nat) (x : Rat) : Rat :=
  let s := rabs (x * pow10 n)
  let fl : Int := s.floor
  let r : Int := if s - (fl : Rat) ≥ 1/2 then fl + 1 else fl
  (if x < 0 then -(r : Rat) else (r : Rat)) / pow10 n

/-- `round_dp(n)` of rust_decimal: midpoint to nearest even (banker's rounding) -/
def roundHalfEven (n : Nat) (x : Rat) : Rat :=
  let s := rabs (x * pow10 n)
  let fl : Int := s.floor
  let frac := s - (fl : Rat)
  let r : Int :=
    if frac > 1/2 then fl + 1
    else if frac < 1/2 then fl
    else if fl % 2 = 0 then fl else fl + 1
  (if x < 0 then -(r : Rat) else (r : Rat)) / pow10 n

def rsum : List Rat → Rat
  | [] => 0
  | x :: xs => x + rsum xs

@[simp] theorem rsum_nil : rsum [] = 0 := rfl
@[simp] theorem rsum_cons (x : Rat) (xs : List Rat) : rsum (x :: xs) = x + rsum xs := rfl

theorem rsum_one (x : Rat) : rsum [x] = x := Rat.add_zero x

theorem rsum_append (xs ys : List Rat) : rsum (xs ++ ys) = rsum xs + rsum ys := by
  induction xs with
  | nil => exact (Rat.zero_add _).symm
  | cons x xs ih => rw [List.cons_append, rsum_cons, ih, rsum_cons, Rat.add_assoc]

theorem Spec.rsum_map_mul (l : List Rat) (g : Rat) : rsum (l.map (· * g)) = rsum l * g := by
  induction l with
  | nil => simp
  | cons x xs ih =>
    simp only [List.map_cons, rsum_cons, ih]
    grind

theorem rsum_map_nonneg {α : Type} (f : α → Rat) : ∀ {l : List α}, (∀ x ∈ l, 0 ≤ f x) → 0 ≤ rsum (l.map f)
  | [], _ => Rat.le_refl
  | x :: _, h => Rat.add_nonneg (h x List.mem_cons_self)
      (rsum_map_nonneg f fun y hy => h y (List.mem_cons_of_mem _ hy))

theorem rsum_filter_map_eq_zero {α : Type} {p : α → Bool} (f : α → Rat) {l : List α}
    (h : ∀ x ∈ l, p x = false) : rsum ((l.filter p).map f) = 0 := by
  rw [List.filter_eq_nil_iff.mpr fun x hx => by simp [h x hx]]
  rfl

theorem rat_sub_zero (a : Rat) : a - 0 = a := by grind
theorem rat_sub_sub (a b c : Rat) : a - b - c = a - (b + c) := by grind
theorem rat_sub_mul (a b c : Rat) : a * c - b * c = (a - b) * c := by grind

theorem min_mul_pos {a b g : Rat} (hg : 0 < g) : min (a * g) (b * g) = min a b * g := by
  have h1 : a ≤ b → a * g ≤ b * g := fun h => Rat.mul_le_mul_of_nonneg_right h (Rat.le_of_lt hg)
  have h2 : b ≤ a → b * g ≤ a * g := fun h => Rat.mul_le_mul_of_nonneg_right h (Rat.le_of_lt hg)
  rcases (Rat.le_total : a ≤ b ∨ b ≤ a) with h | h
  · have := h1 h; grind
  · have := h2 h; grind

theorem mul_nonpos_iff_of_pos {a g : Rat} (hg : 0 < g) : a * g ≤ 0 ↔ a ≤ 0 := by
  rw [← Rat.not_lt, ← Rat.not_lt, Rat.mul_pos_iff_of_pos_right hg]

theorem rsum_eq_zero : ∀ {l : List Rat}, (∀ x ∈ l, x = 0) → rsum l = 0
  | [], _ => rfl
  | x :: xs, h => by
    have ⟨hx, hxs⟩ := List.forall_mem_cons.mp h
    rw [rsum_cons, hx, rsum_eq_zero hxs, Rat.add_zero]

theorem rat_div_pos {a k : Rat} (ha : 0 < a) (hk : 0 < k) : 0 < a / k := by
  have : 0 < k⁻¹ := Rat.inv_pos.mpr hk
  rw [Rat.div_def]
  exact Rat.mul_pos ha this

theorem rat_div_nonneg {a b : Rat} (ha : 0 ≤ a) (hb : 0 < b) : 0 ≤ a / b := by
  rw [Rat.div_def]
  exact Rat.mul_nonneg ha (Rat.le_of_lt (Rat.inv_pos.mpr hb))

theorem add_mul_div (c m : Rat) {k : Rat} (hk : 0 < k) : (c + m * k) / k = c / k + m := by grind

theorem getD_tail (cl : List Rat) (j : Nat) : cl.tail.getD j 0 = cl.getD (j + 1) 0 := by
  cases cl <;> simp

theorem headD_getD (cl : List Rat) : cl.headD 0 = cl.getD 0 0 := by cases cl <;> simp

end Cgt
