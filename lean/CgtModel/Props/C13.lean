import CgtModel.Lemmas.DslFile
/-! # C13 — layout, comments, keyword case and line endings never change what is parsed

The executable model `Dsl.parse` is a scannerless PEG reading of parser.pest + parser.rs; the check
compares it with the real parser on generated layouts and on single-token corruptions (accept/reject,
transaction list, error line). Proved here, each for all inputs:

* blanks and keyword case: `C13_extra_blanks_ignored`, `C13_keyword_case_irrelevant`;
* blank lines, comment lines, a comment behind a transaction: `C13_blank_line_is_blank`,
  `C13_comment_line_is_blank`, `C13_trailing_comment_ignored`;
* line endings: `C13_lf_crlf_cr_equivalent`, `C13_missing_final_newline`;
* what the reader defaults: `C13_omitted_currency_is_gbp`, `C13_omitted_clause_is_zero`;
* nothing dropped, the right line blamed: `C13_nothing_silently_skipped`, `C13_first_bad_line_is_reported`;
* **the composition**, for one line and all seven commands: `C13_any_layout`, `C13_layouts_agree`; for **a whole
  file** (each transaction line in its own layout, blank and comment lines anywhere, any of the three terminators
  after each line, a last line with or without one): `C13_any_file_layout`, with `okList_file` the same as an
  equivalence with the semantic checks and `line_then` its step;
* several files read as one: `parse_joined_files`.

The layout theorems cover a zero fee/tax clause that is left out (`layOpt` renders it as nothing; the `normTx` in
their conclusions is what is read back: the transaction up to the currency label and the scale of that clause's
zero). What they do
not reach, though the reader accepts it:
* tickers and currency codes in lower or mixed case (`txOk` asks for upper-case; a `Layout` varies only the
  spelling of the keywords);
* an empty gap where the grammar allows one (`10@5`, `2024-01-01BUY`: `Layout.ok` wants every gap non-empty);
* a zero fee/tax clause that is written out;
* an omitted `GBP`.
For the last there is `C13_omitted_currency_is_gbp`, one unfolding of `pMoney`; for the case of tickers and
currency codes and for an empty gap there is only the evaluated example behind `C13_first_bad_line_is_reported`.
-/
namespace Cgt.C13
open Cgt.Dsl

theorem C13_extra_blanks_ignored (ws cs : List Char) (h : ∀ c ∈ ws, isWs c = true) :
    skipWs (ws ++ cs) = skipWs cs := skipWs_run ws h cs

theorem C13_keyword_case_irrelevant (kw cs rest : List Char) (h : cs.map upper = kw) :
    matchKw kw (cs ++ rest) = some rest := matchKw_case cs kw rest h

theorem parseLine_trail (p : List Char) (h : trailOk p) : parseLine p = .blank := by
  simp [parseLine, skipWC_trail p h]

theorem C13_blank_line_is_blank (cs : List Char) (h : ∀ c ∈ cs, isWs c = true) : parseLine cs = .blank :=
  parseLine_trail cs (Or.inl h)

theorem C13_comment_line_is_blank (ws rest : List Char) (h : ∀ c ∈ ws, isWs c = true) :
    parseLine (ws ++ '#' :: rest) = .blank :=
  parseLine_trail _ (Or.inr ⟨ws, rest, rfl, h⟩)

theorem C13_trailing_comment_ignored (ws rest : List Char) (h : ∀ c ∈ ws, isWs c = true) :
    skipWC (ws ++ '#' :: rest) = skipWC [] := skipWC_comment ws h rest

/-- the same predicate as `Dsl.lineChars`, under the name the statements of this file use -/
def noNl (l : List Char) : Prop := ∀ c ∈ l, c ≠ '\n' ∧ c ≠ '\r'

theorem noNl_eq : noNl = lineChars := rfl

theorem splitLines_ne_nil (cs : List Char) : splitLines cs ≠ [] := by
  rw [splitLines.eq_def]
  split <;> (try split) <;> simp

theorem splitLines_line (l : List Char) (h : noNl l) (tl : List Char) :
    splitLines (l ++ tl) = (l ++ (splitLines tl).headD []) :: (splitLines tl).tail := by
  induction l with
  | nil => cases hsp : splitLines tl with
    | nil => exact absurd hsp (splitLines_ne_nil tl)
    | cons x xs => exact hsp
  | cons c cs ih =>
    have hc := h c (by simp)
    -- the side conditions of `splitLines.eq_5`, in its order: not CR before LF, not LF, not CR
    rw [List.cons_append, splitLines.eq_5 c _ (fun _ e => absurd e hc.2) hc.1 hc.2,
      ih (fun x hx => h x (by simp [hx]))]
    rfl

theorem splitLines_lf (l : List Char) (h : noNl l) (rest : List Char) :
    splitLines (l ++ '\n' :: rest) = l :: splitLines rest := by
  rw [splitLines_line l h, splitLines.eq_3]
  simp

theorem splitLines_crlf (l : List Char) (h : noNl l) (rest : List Char) :
    splitLines (l ++ '\r' :: '\n' :: rest) = l :: splitLines rest := by
  rw [splitLines_line l h, splitLines.eq_2]
  simp

theorem splitLines_cr (l : List Char) (h : noNl l) (rest : List Char) (hr : ∀ r, rest = '\n' :: r → False) :
    splitLines (l ++ '\r' :: rest) = l :: splitLines rest := by
  rw [splitLines_line l h, splitLines.eq_4 rest hr]
  simp

theorem C13_lf_crlf_cr_equivalent (l rest : List Char) (h : noNl l) (hr : ∀ r, rest = '\n' :: r → False) :
    splitLines (l ++ '\n' :: rest) = l :: splitLines rest ∧
    splitLines (l ++ '\r' :: '\n' :: rest) = l :: splitLines rest ∧
    splitLines (l ++ '\r' :: rest) = l :: splitLines rest :=
  ⟨splitLines_lf l h rest, splitLines_crlf l h rest, splitLines_cr l h rest hr⟩

theorem splitLines_noNl (l : List Char) (h : noNl l) : splitLines l = [l] := by
  simpa [splitLines] using splitLines_line l h []

theorem C13_missing_final_newline (l : List Char) (h : noNl l) :
    splitLines (l ++ ['\n']) = [l, []] ∧ splitLines l = [l] :=
  ⟨splitLines_lf l h [], splitLines_noNl l h⟩

/-- one unfolding of `pMoney`: the hypotheses speak of the reader's intermediate results (`pDecimal` succeeded,
    `pCurrency` failed), not of the text; that a text without a code makes `pCurrency` fail is not proved -/
theorem C13_omitted_currency_is_gbp (cs : List Char) (d : DDec) (r : List Char)
    (hd : pDecimal cs = some (d, r)) (hc : pCurrency (skipWC r) = none) :
    pMoney cs = some (⟨d, "GBP"⟩, r) := by simp [pMoney, hd, hc]

/-- one unfolding of `pOptClause`, likewise on the reader's intermediate result -/
theorem C13_omitted_clause_is_zero (kw cs : List Char) (h : pClause kw (skipWC cs) = none) :
    pOptClause kw cs = (zeroGbp, cs) := by simp [pOptClause, h]

def txsOf : List LineResult → List DTx
  | [] => []
  | .tx t :: rest => t :: txsOf rest
  | _ :: rest => txsOf rest

def semOk (valid : List String) (t : DTx) : Bool := (semantic valid 0 t).isNone

theorem semantic_isNone (valid : List String) (n : Nat) (t : DTx) : (semantic valid n t).isNone = semOk valid t := by
  unfold semOk semantic
  split <;> (try split) <;> (try split) <;> rfl

def allOk (valid : List String) (ts : List DTx) : Option (List DTx) :=
  if ts.all (semOk valid) then some ts else none

def verdict (valid : List String) (rs : List LineResult) : Option (List DTx) :=
  if rs.contains .syntaxError then none else allOk valid (txsOf rs)

/-- `parse` with the error forgotten. The error carries a line number, and that is what keeps `parse` from being
    compositional; on `okList`, reading is multiplicative over a line terminator (`comb`, `line_then`). For the
    same reason `semOk` fixes the line number at 0: `semantic`'s verdict does not depend on it (`semantic_isNone`) -/
def okList (valid : List String) (text : List Char) : Option (List DTx) :=
  match parse valid text with
  | .ok ts => some ts
  | .error _ => none

theorem firstSyntax_isSome (rs : List LineResult) : ∀ n, (firstSyntax n rs).isSome = rs.contains .syntaxError := by
  induction rs with
  | nil => intro n; rfl
  | cons r rs ih =>
    intro n
    cases r <;> simp [firstSyntax, ih]

theorem collect_verdict (valid : List String) (rs : List LineResult) : ∀ n,
    (match collect valid n rs with | .ok ts => some ts | .error _ => none) = allOk valid (txsOf rs) := by
  unfold allOk
  induction rs with
  | nil => intro n; rfl
  | cons r rs ih =>
    intro n
    cases r with
    | tx t =>
      simp only [collect, txsOf, List.all_cons, ← semantic_isNone valid n t]
      cases semantic valid n t with
      | some e => rfl
      | none =>
        have : (if (true && (txsOf rs).all (semOk valid)) = true then some (t :: txsOf rs) else none)
            = (if (txsOf rs).all (semOk valid) = true then some (txsOf rs) else none).map (t :: ·) := by
          split <;> simp_all
        rw [Option.isNone_none, this, ← ih (n + 1)]
        cases collect valid (n + 1) rs <;> rfl
    | _ => exact ih (n + 1)

theorem okList_verdict (valid : List String) (text : List Char) :
    okList valid text = verdict valid ((splitLines text).map parseLine) := by
  unfold okList parse verdict
  simp only [← firstSyntax_isSome _ 1]
  cases firstSyntax 1 ((splitLines text).map parseLine) with
  | some n => rfl
  | none => exact collect_verdict valid _ 1

/-- **nothing is silently skipped**: a successful parse returns exactly the transactions of the lines
    that are not blank/comment, in order, and no line failed to parse -/
theorem C13_nothing_silently_skipped (valid : List String) (text : List Char) (ts : List DTx)
    (h : parse valid text = .ok ts) :
    ts = txsOf ((splitLines text).map parseLine) ∧
    ∀ x ∈ (splitLines text).map parseLine, x ≠ .syntaxError := by
  have hv := okList_verdict valid text
  simp only [okList, h, verdict, allOk] at hv
  split at hv
  · cases hv
  · rename_i hn
    split at hv
    · injection hv with hv
      exact ⟨hv, fun x hx e => hn (List.contains_iff_mem.2 (e ▸ hx))⟩
    · cases hv

/-- a file with a line that does not parse is rejected with the number `firstSyntax` gives; that this is the
    number of the first such line is `firstSyntax`'s body, not a theorem. Of the line number in a semantic error
    nothing is proved (`C13_any_file_layout_rejects` concludes `∃ e`) -/
theorem C13_first_bad_line_is_reported (valid : List String) (text : List Char) (n : Nat)
    (h : firstSyntax 1 ((splitLines text).map parseLine) = some n) : parse valid text = .error (.syntax n) := by
  simp [parse, h]

-- the only test here of a ticker and a currency code in lower case and of an empty gap (behind `@`): this line
-- is the rendering of no layout
-- (here and below `rw [String.toList_ofList]` is there for the reason given at `kwAll_alpha`, Lemmas/DslLayout.lean)
example : parseLine "2024-01-01  buy aapl 10.50 @5 usd # note".toList =
    .tx ⟨2024, 1, 1, "AAPL", .buy ⟨"10".toList, "50".toList⟩ ⟨⟨['5'], []⟩, "USD"⟩ zeroGbp⟩ := by
  rw [String.toList_ofList]
  decide +kernel

theorem C13_any_layout (L : Layout) (hL : L.ok) (t : DTx) (h : txOk t) :
    parseLine (render L t) = .tx (normTx t) := parseLine_render L hL t h

theorem C13_layouts_agree (L L' : Layout) (hL : L.ok) (hL' : L'.ok) (t : DTx) (h : txOk t) :
    parseLine (render L t) = parseLine (render L' t) := by
  rw [parseLine_render L hL t h, parseLine_render L' hL' t h]

-- non-vacuity: tabs and double blanks, lower-case keywords, a trailing comment
def lowerKw (k : List Char) : List Char := k.map (fun c => if 'A' ≤ c ∧ c ≤ 'Z' then Char.ofNat (c.toNat + 32) else c)
def exLayout : Layout := { pre := [' ', '\t'], g := fun i => if i % 2 = 0 then [' ', ' '] else ['\t'], kw := lowerKw, post := " # note".toList }
theorem exLayout_ok : exLayout.ok := by
  refine ⟨by decide, ?_, ?_, Or.inr ⟨[' '], " note".toList, by decide +kernel, by decide⟩⟩
  · intro i
    unfold exLayout
    simp only
    split <;> exact ⟨by simp, by decide⟩
  · unfold kwAll
    repeat rw [String.toList_ofList]
    decide +kernel
example : exLayout.ok := exLayout_ok
example : render exLayout ⟨2024, 2, 29, "ACME", .split ⟨['2'], []⟩⟩ = " \t2024-02-29  split\tACME  ratio\t2 # note".toList := by
  rw [String.toList_ofList]
  decide +kernel

/-- the right side is `comb (verdict valid x) (verdict valid y)`, which is defined below, written out -/
theorem verdict_append (valid : List String) (x y : List LineResult) :
    verdict valid (x ++ y) = (match verdict valid x, verdict valid y with
      | some a, some b => some (a ++ b)
      | _, _ => none) := by
  have h2 : ∀ x y, txsOf (x ++ y) = txsOf x ++ txsOf y := by
    intro x y; induction x with
    | nil => simp [txsOf]
    | cons r rs ih => cases r <;> simp_all [txsOf]
  unfold verdict allOk
  rw [List.contains_append, h2, List.all_append]
  cases x.contains .syntaxError <;> cases y.contains .syntaxError <;> cases (txsOf x).all (semOk valid) <;> cases (txsOf y).all (semOk valid) <;> simp

def comb : Option (List DTx) → Option (List DTx) → Option (List DTx)
  | some x, some y => some (x ++ y)
  | _, _ => none

theorem comb_nil_left (o : Option (List DTx)) : comb (some []) o = o := by
  cases o <;> simp [comb]

theorem comb_assoc (x y z : Option (List DTx)) : comb (comb x y) z = comb x (comb y z) := by
  cases x <;> cases y <;> cases z <;> simp [comb]

theorem okList_nil (valid : List String) : okList valid [] = some [] := rfl

theorem okList_line (valid : List String) (a : List Char) (h : noNl a) :
    okList valid a = verdict valid [parseLine a] := by
  rw [okList_verdict, splitLines_noNl a h]
  rfl

theorem okList_split (valid : List String) {s a b : List Char} (h : noNl a) (hs : splitLines s = a :: splitLines b) :
    okList valid s = comb (okList valid a) (okList valid b) := by
  rw [okList_verdict, hs, okList_line valid a h, okList_verdict valid b]
  exact verdict_append valid [parseLine a] _

inductive Eol
  | lf | crlf | cr
deriving DecidableEq, Repr

def Eol.chars : Eol → List Char
  | .lf => ['\n']
  | .crlf => ['\r', '\n']
  | .cr => ['\r']

theorem line_then (valid : List String) (a : List Char) (h : noNl a) (e : Eol) (b : List Char) :
    okList valid (a ++ e.chars ++ b) = comb (okList valid a) (okList valid b) := by
  cases e with
  | lf => simpa [Eol.chars] using okList_split valid h (splitLines_lf a h b)
  | crlf => simpa [Eol.chars] using okList_split valid h (splitLines_crlf a h b)
  | cr =>
    by_cases hb : ∃ r, b = '\n' :: r
    · -- the next character completes the CR to CRLF; the line feed in front of `r` ends an empty line
      obtain ⟨r, rfl⟩ := hb
      have h2 := okList_split valid (a := []) (b := r) (fun _ hc => by cases hc) (splitLines.eq_3 r)
      rw [okList_nil, comb_nil_left] at h2
      simpa [Eol.chars, h2] using okList_split valid h (splitLines_crlf a h r)
    · simpa [Eol.chars] using okList_split valid h (splitLines_cr a h b (fun r e => hb ⟨r, e⟩))

/-- It cuts at every `'\r'`, also at one that is followed by `'\n'`: that is why `line_then` has to hold for a CR
    that the next character completes to CRLF -/
theorem lines_ind {P : List Char → Prop} (last : ∀ l, noNl l → P l)
    (step : ∀ l e rest, noNl l → P rest → P (l ++ Eol.chars e ++ rest)) (s : List Char) : P s := by
  suffices ∀ s pre, noNl pre → P (pre ++ s) from this s [] (fun _ h => by cases h)
  intro s
  induction s with
  | nil => intro pre hp; simpa using last pre hp
  | cons c cs ih =>
    intro pre hp
    have rest : P cs := ih [] (fun _ h => by cases h)
    by_cases h1 : c = '\n'
    · subst h1; simpa [Eol.chars] using step pre .lf cs hp rest
    · by_cases h2 : c = '\r'
      · subst h2; simpa [Eol.chars] using step pre .cr cs hp rest
      · have := ih (pre ++ [c]) (fun x hx => by
          rcases List.mem_append.1 hx with hx | hx
          · exact hp x hx
          · simp only [List.mem_singleton] at hx; subst hx; exact ⟨h1, h2⟩)
        simpa using this

theorem text_then (valid : List String) (a : List Char) (e : Eol) (b : List Char) :
    okList valid (a ++ e.chars ++ b) = comb (okList valid a) (okList valid b) := by
  refine lines_ind (P := fun a => okList valid (a ++ e.chars ++ b) = comb (okList valid a) (okList valid b)) ?_ ?_ a
  · intro l hl; exact line_then valid l hl e b
  · intro l e' rest hl ih
    rw [List.append_assoc, List.append_assoc, line_then valid l hl e', ← List.append_assoc, ih, ← comb_assoc,
      ← line_then valid l hl e']

/-- **the transactions of several files read as one** (what `cgt-tool parse/report a b …` does,
    `read_and_concatenate_files`: the files' texts joined by a line feed): the joined text parses exactly when
    each file parses, to the concatenation of their lists — whether or not a file ends in a newline, in a
    comment, or in CR -/
theorem parse_joined_files (valid : List String) (a b : List Char) :
    okList valid (a ++ '\n' :: b) = (match okList valid a, okList valid b with
      | some x, some y => some (x ++ y)
      | _, _ => none) := by
  have h := text_then valid a .lf b
  simp only [Eol.chars, List.append_assoc, List.cons_append, List.nil_append] at h
  exact h

/-- the separator `cgt-tool` puts between input files, as the translator reads it from main.rs on every run
    (group `cli_join`) -/
theorem C13_files_joined_by_line_feed : Cgt.cliFileJoin = "\n" := rfl

inductive SrcLine
  | tx (L : Layout) (t : DTx)
  | blank (ws : List Char)
  | comment (ws body : List Char)

def SrcLine.chars : SrcLine → List Char
  | .tx L t => render L t
  | .blank ws => ws
  | .comment ws body => ws ++ '#' :: body

def SrcLine.ok : SrcLine → Prop
  | .tx L t => L.ok ∧ lineChars L.post ∧ txOk t
  | .blank ws => wsRun0 ws
  | .comment ws body => wsRun0 ws ∧ lineChars body

def SrcLine.txs : SrcLine → List DTx
  | .tx _ t => [normTx t]
  | _ => []

/-- the last line has no terminator: it is `.blank []` when the file ends in one -/
def fileText : List (SrcLine × Eol) → SrcLine → List Char
  | [], last => last.chars
  | (l, e) :: rest, last => l.chars ++ e.chars ++ fileText rest last

def fileTxs (ls : List (SrcLine × Eol)) (last : SrcLine) : List DTx :=
  (ls.map (·.1) ++ [last]).flatMap SrcLine.txs

theorem allOk_comb (valid : List String) (x y : List DTx) : comb (allOk valid x) (allOk valid y) = allOk valid (x ++ y) := by
  unfold allOk
  rw [List.all_append]
  cases x.all (semOk valid) <;> cases y.all (semOk valid) <;> simp [comb]

theorem srcLine_noNl (l : SrcLine) (h : l.ok) : noNl l.chars := by
  rw [noNl_eq]
  cases l with
  | tx L t => exact lineChars_render L h.1 h.2.1 t h.2.2
  | blank ws => exact lineChars_ws ws h
  | comment ws body =>
    exact (lineChars_append _ _).2 ⟨lineChars_ws ws h.1, (lineChars_cons _ _).2 ⟨⟨by decide, by decide⟩, h.2⟩⟩

theorem srcLine_okList (valid : List String) (l : SrcLine) (h : l.ok) : okList valid l.chars = allOk valid l.txs := by
  rw [okList_line valid _ (srcLine_noNl l h)]
  cases l with
  | tx L t => rw [SrcLine.chars, parseLine_render L h.1 t h.2.2]; rfl
  | blank ws => rw [SrcLine.chars, parseLine_trail ws (Or.inl h)]; rfl
  | comment ws body => rw [SrcLine.chars, parseLine_trail _ (Or.inr ⟨ws, body, rfl, h.1⟩)]; rfl

/-- **C13 for a whole file**: the file parses exactly when its transactions pass the semantic checks, and then
    to the transactions of its transaction lines, in order, each as it is read back (`normTx`) -/
theorem okList_file (valid : List String) (ls : List (SrcLine × Eol)) (last : SrcLine)
    (hls : ∀ x ∈ ls, x.1.ok) (hlast : last.ok) :
    okList valid (fileText ls last) = allOk valid (fileTxs ls last) := by
  induction ls with
  | nil =>
    simp only [fileText, fileTxs, List.map_nil, List.nil_append, List.flatMap_cons, List.flatMap_nil, List.append_nil]
    exact srcLine_okList valid last hlast
  | cons x rest ih =>
    obtain ⟨l, e⟩ := x
    have hl : l.ok := hls (l, e) (by simp)
    have ih' := ih (fun y hy => hls y (by simp [hy]))
    simp only [fileText]
    rw [line_then valid _ (srcLine_noNl l hl), srcLine_okList valid l hl, ih', allOk_comb]
    simp [fileTxs]

theorem parse_of_okList {valid : List String} {s : List Char} {ts : List DTx} (h : okList valid s = some ts) :
    parse valid s = .ok ts := by
  unfold okList at h
  split at h
  · rename_i ts' hp; injection h with h; rw [hp, h]
  · cases h

theorem C13_any_file_layout (valid : List String) (ls : List (SrcLine × Eol)) (last : SrcLine)
    (hls : ∀ x ∈ ls, x.1.ok) (hlast : last.ok) (hsem : ∀ t ∈ fileTxs ls last, semOk valid t = true) :
    parse valid (fileText ls last) = .ok (fileTxs ls last) := by
  apply parse_of_okList
  rw [okList_file valid ls last hls hlast, allOk, if_pos (List.all_eq_true.mpr hsem)]

theorem C13_any_file_layout_rejects (valid : List String) (ls : List (SrcLine × Eol)) (last : SrcLine)
    (hls : ∀ x ∈ ls, x.1.ok) (hlast : last.ok) (t : DTx) (ht : t ∈ fileTxs ls last) (hsem : semOk valid t = false) :
    ∃ e, parse valid (fileText ls last) = .error e := by
  have h := okList_file valid ls last hls hlast
  have hall : ¬ (fileTxs ls last).all (semOk valid) = true := fun hh => by
    rw [List.all_eq_true.mp hh t ht] at hsem; cases hsem
  rw [allOk, if_neg hall, okList] at h
  split at h
  · cases h
  · rename_i e hp; exact ⟨e, hp⟩

/-- the writer's own layout: single blanks, keywords as they stand (`C14.writeTx_eq_render`) -/
def plainLayout : Layout := { pre := [], g := fun _ => [' '], kw := id, post := [] }
theorem plainLayout_ok : plainLayout.ok :=
  ⟨List.forall_mem_nil _, fun _ => ⟨List.cons_ne_nil _ _, (by decide : wsRun0 [' '])⟩,
    fun k hk => map_upper_id (fun c hc => ((kwAll_alpha k hk).2 c hc).2), Or.inl (List.forall_mem_nil _)⟩
-- non-vacuity: a comment line ended by CRLF, a transaction ended by a bare CR, a blank line ended by LF,
-- a second transaction in the writer's own layout ended by CRLF, nothing after it
def exT1 : DTx := ⟨2024, 2, 29, "ACME", .split ⟨['2'], []⟩⟩
def exT2 : DTx := ⟨2024, 3, 1, "ACME", .sell ⟨['5'], []⟩ ⟨⟨['7'], ['5']⟩, "USD"⟩ zeroGbp⟩
theorem exT1_ok : txOk exT1 := ⟨by decide, by decide, by decide, ⟨by decide, by decide⟩, ⟨by decide, by decide, by decide, rfl⟩⟩
theorem exT2_ok : txOk exT2 := by
  refine ⟨by decide, by decide, by decide, ⟨by decide, by decide⟩, ⟨⟨by decide, by decide, by decide, rfl⟩, ?_, ?_⟩⟩
  · exact ⟨⟨by decide, by decide, by decide, rfl⟩, 'U', 'S', 'D', by decide, by unfold curOk; decide⟩
  · exact ⟨⟨by decide, by decide, by decide, rfl⟩, 'G', 'B', 'P', by decide, by unfold curOk; decide⟩
def exFile : List (SrcLine × Eol) :=
  [(.comment [] " header".toList, .crlf), (.tx exLayout exT1, .cr), (.blank [' '], .lf), (.tx plainLayout exT2, .crlf)]
example : fileText exFile (.blank []) =
    "# header\r\n \t2024-02-29  split\tACME  ratio\t2 # note\r \n2024-03-01 SELL ACME 5 @ 7.5 USD\r\n".toList := by
  rw [String.toList_ofList]
  decide +kernel
example : (∀ x ∈ exFile, x.1.ok) ∧ (SrcLine.blank []).ok ∧ fileTxs exFile (.blank []) = [exT1, exT2] := by
  refine ⟨?_, (by decide : wsRun0 []), by decide⟩
  intro x hx
  simp only [exFile, List.mem_cons, List.not_mem_nil, or_false] at hx
  rcases hx with rfl | rfl | rfl | rfl
  · exact ⟨(by decide : wsRun0 []), (by decide : lineChars " header".toList)⟩
  · exact ⟨exLayout_ok, (by decide : lineChars exLayout.post), exT1_ok⟩
  · exact (by decide : wsRun0 [' '])
  · exact ⟨plainLayout_ok, (by decide : lineChars plainLayout.post), exT2_ok⟩

end Cgt.C13
