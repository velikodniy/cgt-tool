import CgtModel.Props.C13
import CgtModel.Json
/-! # C14 — transactions survive DSL and JSON round trips unchanged

The writer model `Dsl.write` is compared byte for byte with the real `transactions_to_dsl` on every run,
and the reader model with the real parser (C13). Proved here:
* what the writer emits: `C14_decimal_roundtrip` (a canonical decimal of any scale, followed by a blank or the
  end of the line, is read back digit for digit), `C14_zero_clause_omitted`, `C14_nonzero_clause_written` (a zero
  fee/tax is not written, so its currency label and the scale of the zero are lost), `C14_write_lines` (one line per transaction,
  joined by LF, no trailing newline);
* **the whole DSL round trip**, `C14_line_roundtrip`, `C14_parse_write`: for every list of well-formed
  transactions (four-digit year, upper-case alphanumeric ticker, canonical decimals of any scale,
  three-letter upper-case currency codes other than the guard keywords) that pass the reader's
  semantic checks, `parse (write l) = l` up to the currency label and the scale of an unwritten zero fee/tax
  (`normTx`); `C14_write_idempotent`.
The JSON leg is modelled at the level of JSON values (`C14_json_roundtrip` and the reader's variants below;
the text layer of serde_json is not modelled); the value model is compared with the real serde code for
every generated list, together with equality of the three reports.
-/
namespace Cgt.C14
open Cgt.Dsl

/-- the same predicate as `Dsl.canon`, under the name the statements of this file use; inside this namespace a
    bare `canon` is this one, while `opOk` and `txOk` carry `Dsl.canon` -/
def canon (d : DDec) : Prop :=
  d.ip ≠ [] ∧ (∀ c ∈ d.ip, isDigit c = true) ∧ (∀ c ∈ d.fp, isDigit c = true) ∧ stripZeros d.ip = d.ip

theorem canon_eq : canon = Dsl.canon := rfl

def afterDec (rest : List Char) : Prop := rest = [] ∨ ∃ r, rest = ' ' :: r

theorem C14_decimal_roundtrip (d : DDec) (hc : canon d) (rest : List Char) (hrest : afterDec rest) :
    pDecimal (showDec d ++ rest) = some (d, rest) := by
  refine pDecimal_tok d (canon_eq ▸ hc) rest ?_
  rcases hrest with rfl | ⟨r, rfl⟩
  · exact tokEnd_nil
  · exact tokEnd_cons r (Or.inl rfl)

theorem C14_zero_clause_omitted (kw : String) (a : DAmt) (h : isZeroDec a.d = true) : optClause kw a = [] := by
  simp [optClause, h]

theorem C14_nonzero_clause_written (kw : String) (a : DAmt) (h : isZeroDec a.d = false) :
    optClause kw a = (" " ++ kw ++ " ").toList ++ showAmt a := by
  simp [optClause, h]

theorem C14_write_lines (t : DTx) (u : DTx) (ts : List DTx) :
    write [t] = writeTx t ∧ write (t :: u :: ts) = writeTx t ++ '\n' :: write (u :: ts) := ⟨rfl, rfl⟩

-- non-vacuity: a scale-28 literal
example : canon ⟨['0'], "0000000000000000000000000001".toList⟩ := by
  -- unify the literal with `String.ofList _` instead of letting the kernel decode it (see `kwAll_alpha`)
  rw [String.toList_ofList]
  refine ⟨by simp, ?_, ?_, rfl⟩ <;> decide +kernel

/-- the writer the model transcribes is the one in dsl.rs (regenerated by tools/extract.py, group
    `writer`: every arm's format string and arguments are compared there; the date format comes here) -/
theorem C14_writer_date_format : Cgt.dslDateFormat = "%Y-%m-%d" := rfl

/-- the reader's currency guard is the one in parser.pest (group `grammar`) -/
theorem C14_guard_as_modelled :
    Cgt.dslGuardKeywords = ["TAX", "BUY", "FEES", "TOTAL", "RATIO", "SELL"] ∧ Cgt.dslGuardCaseInsensitive = true := ⟨rfl, rfl⟩

section Writer
open Cgt.C13 (plainLayout plainLayout_ok)

theorem spaced_toList (s : String) : (" " ++ s ++ " ").toList = ' ' :: (s.toList ++ [' ']) := by
  simp only [String.toList_append]
  rfl

theorem layAmt_plain (i : Nat) (a : DAmt) : layAmt (plainLayout.g i) a = showAmt a := by
  simp only [layAmt, showAmt, plainLayout, List.append_assoc, List.cons_append, List.nil_append]

theorem layOpt_plain (i : Nat) (kw : String) (a : DAmt) : layOpt plainLayout i kw.toList a = optClause kw a := by
  simp only [layOpt, optClause, layAmt_plain, spaced_toList]
  simp only [plainLayout, id, List.cons_append, List.nil_append, List.append_assoc]

-- no keyword is spelt out: both sides carry `"BUY".toList` and the like as they stand
theorem writeTx_eq_render (t : DTx) : writeTx t = render plainLayout t := by
  have hat : " @ ".toList = [' ', '@', ' '] := by decide
  have htot : " TOTAL ".toList = ' ' :: ("TOTAL".toList ++ [' ']) := spaced_toList "TOTAL"
  have hrat : " RATIO ".toList = ' ' :: ("RATIO".toList ++ [' ']) := spaced_toList "RATIO"
  unfold writeTx render layCmd
  cases t.op <;>
    simp only [layOpt_plain, layAmt_plain, spaced_toList, hat, htot, hrat] <;>
    simp only [plainLayout, id, List.cons_append, List.nil_append, List.append_nil, List.append_assoc]

theorem C14_line_roundtrip (t : DTx) (h : txOk t) : parseLine (writeTx t) = .tx (normTx t) := by
  rw [writeTx_eq_render]; exact parseLine_render _ plainLayout_ok t h

theorem lineChars_writeTx (t : DTx) (h : txOk t) : lineChars (writeTx t) := by
  rw [writeTx_eq_render]; exact lineChars_render _ plainLayout_ok lineChars_nil t h

end Writer

section WholeText
open Cgt.C13 (noNl_eq okList allOk okList_nil srcLine_okList SrcLine Eol line_then allOk_comb plainLayout plainLayout_ok
  parse_of_okList semOk)

theorem okList_writeTx (valid : List String) (t : DTx) (h : txOk t) : okList valid (writeTx t) = allOk valid [normTx t] := by
  have := srcLine_okList valid (.tx plainLayout t) ⟨plainLayout_ok, lineChars_nil, h⟩
  rwa [SrcLine.chars, ← writeTx_eq_render] at this

theorem okList_write (valid : List String) : ∀ ts : List DTx, (∀ t ∈ ts, txOk t) →
    okList valid (write ts) = allOk valid (ts.map normTx)
  | [], _ => okList_nil valid
  | [t], h => okList_writeTx valid t (h t (by simp))
  | t :: u :: us, h => by
    have ht := h t (by simp)
    have h1 := line_then valid (writeTx t) (noNl_eq ▸ lineChars_writeTx t ht) .lf (write (u :: us))
    rw [okList_writeTx valid t ht, okList_write valid (u :: us) (fun x hx => h x (by simp [hx])), allOk_comb] at h1
    simpa [write, Eol.chars] using h1

/-- `hsem` is the reader's semantic checks on what is read back: calendar dates, known currencies, and decimals
    that rust_decimal holds (`decTooBig`: at most 28 fraction digits, mantissa below 2^96) — "any scale" for a
    whole text means any scale within these -/
theorem C14_parse_write (valid : List String) (ts : List DTx) (hall : ∀ t ∈ ts, txOk t)
    (hsem : ∀ t ∈ ts, ∀ k, semantic valid k (normTx t) = none) :
    parse valid (write ts) = .ok (ts.map normTx) := by
  apply parse_of_okList
  rw [okList_write valid ts hall, allOk, if_pos]
  simp only [List.all_map, List.all_eq_true, Function.comp]
  intro t ht
  rw [semOk, hsem t ht 0]
  rfl

end WholeText

theorem isZero_zeroDec : isZeroDec zeroDec = true := by decide

theorem normAmt_idem (a : DAmt) : normAmt (normAmt a) = normAmt a := by
  unfold normAmt
  by_cases h : isZeroDec a.d = true
  · simp only [h, if_true]; simp [zeroGbp, isZero_zeroDec]
  · simp only [h, Bool.false_eq_true, if_false]

theorem optClause_norm (kw : String) (a : DAmt) : optClause kw (normAmt a) = optClause kw a := by
  unfold optClause normAmt
  by_cases h : isZeroDec a.d = true
  · simp [h, zeroGbp, isZero_zeroDec]
  · simp [h]

theorem writeTx_norm (t : DTx) : writeTx (normTx t) = writeTx t := by
  cases t with
  | mk y m d tk op => cases op <;> simp only [normTx, normOp, writeTx, showDateD, optClause_norm]

theorem write_norm : ∀ (ts : List DTx), write (ts.map normTx) = write ts := by
  intro ts
  induction ts with
  | nil => rfl
  | cons t ts ih =>
    cases ts with
    | nil => simp [write, writeTx_norm]
    | cons u us =>
      simp only [List.map_cons, write] at ih ⊢
      rw [writeTx_norm, ih]

/-- **write ∘ parse ∘ write = write**: the text is a fixed point -/
theorem C14_write_idempotent (valid : List String) (ts ts' : List DTx) (hall : ∀ t ∈ ts, txOk t)
    (hsem : ∀ t ∈ ts, ∀ k, semantic valid k (normTx t) = none)
    (h : parse valid (write ts) = .ok ts') : write ts' = write ts := by
  rw [C14_parse_write valid ts hall hsem] at h
  injection h with h
  rw [← h, write_norm]

-- non-vacuity: a BUY in USD with an unwritten zero fee in EUR, on a leap day
def exTx : DTx := ⟨2024, 2, 29, "ACME", .buy ⟨['1', '0'], []⟩ ⟨⟨['4'], ['5', '0']⟩, "USD"⟩ ⟨⟨['0'], []⟩, "EUR"⟩⟩
example : txOk exTx := by
  refine ⟨by decide, by decide, by decide, ⟨by decide, by decide⟩, ⟨⟨by decide, by decide, by decide, rfl⟩, ?_, ?_⟩⟩
  · exact ⟨⟨by decide, by decide, by decide, rfl⟩, 'U', 'S', 'D', by decide, by unfold curOk; decide⟩
  · exact ⟨⟨by decide, by decide, by decide, rfl⟩, 'E', 'U', 'R', by decide, by unfold curOk; decide⟩
example : writeTx exTx = "2024-02-29 BUY ACME 10 @ 4.50 USD".toList := by
  rw [String.toList_ofList]
  decide +kernel
example : normTx exTx = ⟨2024, 2, 29, "ACME", .buy ⟨['1', '0'], []⟩ ⟨⟨['4'], ['5', '0']⟩, "USD"⟩ ⟨⟨['0'], []⟩, "GBP"⟩⟩ := by decide

section JsonLeg
open Cgt.Json

theorem readDec_show (d : DDec) (h : canon d) : readDec (showDec d) = .ok d := by
  have := pDecimal_tok d (canon_eq ▸ h) [] tokEnd_nil
  simp only [List.append_nil] at this
  simp [readDec, this]

/-- quantities and ratios the JSON reader insists on being positive -/
def posOk : DOp → Prop
  | .buy q _ _ | .sell q _ _ | .accumulation q _ _ | .capreturn q _ _ => isZeroDec q = false
  | .split r | .unsplit r => isZeroDec r = false
  | .dividend _ _ => True

theorem readAmt_amtJ (valid : List String) (a : DAmt) (h : amtOk a) (hv : a.cur ∈ valid) :
    readAmt valid (amtJ a) = .ok a := by
  simp [readAmt, amtJ, field, readDec_show a.d (canon_eq ▸ h.1), R.bind, String.ofList_toList, hv]

theorem readDate_show (t : DTx) (hy : t.y < 10000) (hm : t.m < 100) (hd : t.d < 100) (hv : Date.valid ⟨t.y, t.m, t.d⟩ = true) :
    readDate (showDateD t) = .ok (t.y, t.m, t.d) := by
  have := pDate_app t hy hm hd []
  rw [List.append_nil] at this
  simp [readDate, this, hv]

theorem readPosDec_show (k : Key) (d : DDec) (h : canon d) (hp : isZeroDec d = false) (fs : List (Key × JV))
    (hf : field k fs = some (.str (showDec d))) : readPosDec k fs = .ok d := by
  simp [readPosDec, hf, readDec_show d h, R.bind, isPositive, hp]

theorem actOf_lits :
    actOf "BUY".toList = some .buy ∧ actOf "SELL".toList = some .sell ∧ actOf "DIVIDEND".toList = some .dividend ∧
    actOf "ACCUMULATION".toList = some .accumulation ∧ actOf "CAPRETURN".toList = some .capreturn ∧
    actOf "SPLIT".toList = some .split ∧ actOf "UNSPLIT".toList = some .unsplit := by decide +kernel

theorem readOp_skip (valid : List String) (v : JV) (fs : List (Key × JV)) :
    readOp valid ((.date, v) :: fs) = readOp valid fs ∧ readOp valid ((.ticker, v) :: fs) = readOp valid fs := by
  constructor <;> simp [readOp, field, readPosDec, readReqAmt, readOptAmt]

theorem readOp_opJ (valid : List String) (op : DOp) (hop : opOk op) (hp : posOk op)
    (hc : ∀ a ∈ amtsOf op, a.cur ∈ valid) : readOp valid (opJ op) = .ok op := by
  obtain ⟨n1, n2, n3, n4, n5, n6, n7⟩ := actOf_lits
  have dec : ∀ d, Dsl.canon d → readDec (showDec d) = .ok d := canon_eq ▸ readDec_show
  have amt := readAmt_amtJ valid
  -- each decimal is read back by `dec`, each amount by `amt`; the rest is `field` on a literal list
  cases op <;>
    simp only [opOk, posOk, amtsOf, List.forall_mem_cons, List.not_mem_nil, false_imp_iff, implies_true, and_true]
      at hop hp hc <;>
    simp only [readOp, opJ, field, reduceCtorEq, ↓reduceIte,
      n1, n2, n3, n4, n5, n6, n7, R.bind, readPosDec, isPositive, Bool.not_false, readReqAmt, readOptAmt,
      dec, amt, hop, hp, hc]

/-- **C14, the JSON leg, at the level of JSON values**: the value the tool serialises a transaction to is
    read back as that very transaction, every currency label included (a zero fee keeps its label and its scale here),
    provided quantities and ratios are positive (the reader refuses others), the date is a calendar date and
    the currencies are ones the tool knows. `txOk t` asks more than this leg needs: of it the proof uses the
    bounds on year, month and day, the upper-case ticker and the canonical decimals, not the three-letter
    upper-case currency codes of the DSL. -/
theorem C14_json_roundtrip (valid : List String) (t : DTx) (h : txOk t) (hp : posOk t.op)
    (hv : Date.valid ⟨t.y, t.m, t.d⟩ = true) (hc : ∀ a ∈ amtsOf t.op, a.cur ∈ valid) :
    fromJ valid (toJ t) = .ok t := by
  obtain ⟨hy, hm, hd, htk, hop⟩ := h
  have hdate := readDate_show t hy hm hd hv
  have hup := map_upper_id (fun c hc => (htk.2 c hc).2)
  unfold fromJ toJ
  simp only [List.cons_append, List.nil_append, (readOp_skip valid _ _).1, (readOp_skip valid _ _).2,
    readOp_opJ valid t.op hop hp hc, field, if_true, reduceCtorEq, if_false, hdate, R.bind, hup, String.ofList_toList]

/-- the action tag is read without regard to the case of its ASCII letters (`upper`; the tool's `to_uppercase` is
    Unicode's, which the model does not follow beyond ASCII) -/
theorem json_action_case (a a' : List Char) (h : a.map upper = a'.map upper) : actOf a = actOf a' := by
  unfold actOf normAction
  rw [h]

/-- the ticker is read without regard to the case of its ASCII letters (C09's "in every input format", JSON
    side): two transaction values differing only in that are read as the same transaction -/
theorem json_ticker_case (valid : List String) (tk tk' : List Char) (h : tk.map upper = tk'.map upper)
    (rest : List (Key × JV)) :
    fromJ valid (.obj ((.ticker, .str tk) :: rest)) = fromJ valid (.obj ((.ticker, .str tk') :: rest)) := by
  unfold fromJ
  simp only [field, reduceCtorEq, if_false, if_true, (readOp_skip valid _ rest).2]
  cases field Key.date rest with
  | none => rfl
  | some v =>
    cases v with
    | str ds => simp only [h]
    | obj _ => rfl
    | other => rfl

/-- an omitted fees / tax field is nought pounds; a bare string is an amount in pounds -/
theorem json_defaults (valid : List String) (fs : List (Key × JV)) (k : Key) (h : field k fs = none) (d : DDec) (hd : canon d) :
    readOptAmt valid k fs = .ok zeroGbp ∧ readAmt valid (.str (showDec d)) = .ok ⟨d, "GBP"⟩ := by
  constructor
  · simp [readOptAmt, h]
  · simp [readAmt, readDec_show d hd, R.bind]

/-- the legacy `gbp` key, a missing `currency` and an unknown currency code are refused -/
theorem json_money_refusals (valid : List String) (fs : List (Key × JV)) :
    ((field .gbp fs).isSome → readAmt valid (.obj fs) = .reject) ∧
    (∀ d, field .gbp fs = none → field .amount fs = some (.str (showDec d)) → canon d → field .currency fs = none →
      readAmt valid (.obj fs) = .reject) ∧
    (∀ d c, field .gbp fs = none → field .amount fs = some (.str (showDec d)) → canon d → field .currency fs = some (.str c) →
      String.ofList c ∉ valid → readAmt valid (.obj fs) = .reject) := by
  refine ⟨?_, ?_, ?_⟩
  · intro h; simp [readAmt, h]
  · intro d h1 h2 hd h3; simp [readAmt, h1, h2, h3, readDec_show d hd, R.bind]
  · intro d c h1 h2 hd h3 h4; simp [readAmt, h1, h2, h3, h4, readDec_show d hd, R.bind]

-- non-vacuity: the round trip's premises on the example transaction
example : posOk exTx.op ∧ Date.valid ⟨exTx.y, exTx.m, exTx.d⟩ = true ∧ ∀ a ∈ amtsOf exTx.op, a.cur ∈ ["USD", "EUR", "GBP"] := by
  refine ⟨(by decide : isZeroDec _ = false), by decide, ?_⟩
  intro a ha
  simp only [exTx, amtsOf, List.mem_cons, List.not_mem_nil, or_false] at ha
  rcases ha with rfl | rfl <;> simp

end JsonLeg
end Cgt.C14
