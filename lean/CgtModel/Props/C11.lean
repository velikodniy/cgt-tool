import CgtModel.Lemmas.Prepass
import CgtModel.Props.Formulas
-- no proof below uses Props.Formulas: the audit of C11 reaches the `Formulas.*` names listed under it through
-- this import
/-! # C11 — capital returns and accumulations move cost by exactly their amount

Statement: a capital return lowers, an accumulation raises, the allowable expenditure of the security by
exactly its net amount, spread only over shares already held and never over shares acquired after the
event; equal accumulation and capital return on one date cancel; no leg or holding has negative
allowable cost — a capital return the remaining expenditure cannot absorb is refused citing TCGA92
s122; cash dividends change only the dividend totals.

Proved for the model of the cost pre-pass (`applyAdj`, `applyCaps`, `prepassDay`) and for `Day.add`:
* `C11_moves_exactly`, `C11_no_holding_no_effect` — restatements of `applyAdj_sum` / `applyAdj_none_held`
  (Lemmas/Offsets), listed under C03 as `C03_event_moves_offsets_exactly` /
  `C03_event_without_holding_is_inert`; the whole pre-pass is `prepass_props`;
* `C11_only_offsets_change`, `C11_spent_lots_untouched` — an event changes nothing but the offsets of
  lots that still hold shares; `C11_later_lot_keeps_zero_offset` — the day's own purchase, on a day without
  SELL lines, leaves `prepassDay` as the last lot with offset 0;
* `C11_equal_events_cancel` — `applyAdj v` followed by `applyAdj (-v)` restores every offset (the two
  adjustments only: in `prepassDay` the refusal test of the capital return stands between them, and that it
  does not fire is not stated);
* `C11_excess_is_refused` — `applyCaps` on a non-empty lot list (`lots.isEmpty = false`) whose first
  capital return exceeds the adjusted cost of the lots still held answers `capReturnExceedsCost` for it
  (this direction, the head of the list; with no lot at all the return is skipped; the real message
  cites S122: checked on the real error text by the correspondence);
* `C11_dividend_is_inert` — `Day.add` of a DIVIDEND line leaves the day record unchanged (`rfl`; a DIVIDEND
  on a date of its own still makes a day of the security's list).
Known finding D6 (recorded, not repaired): the refusal test compares with the *sum* of the held lots'
costs while the amount is apportioned by *shares*, so one cheap lot can be driven negative; "no leg
or holding has negative allowable cost" is therefore false on the tree under test and is not proved; the
model reproduces the defect (`negativeLotWitness`).
-/
namespace Cgt.C11
open Cgt

theorem C11_moves_exactly (adj : Rat) (lots : List Lot) (hnn : ∀ l ∈ lots, 0 ≤ l.held)
    (hth : totalHeld lots ≠ 0) : offSum (applyAdj adj lots) = offSum lots + adj :=
  applyAdj_sum adj lots hnn hth

theorem C11_no_holding_no_effect (adj : Rat) (lots : List Lot) (h : totalHeld lots = 0) :
    applyAdj adj lots = lots := applyAdj_none_held adj lots h

theorem C11_only_offsets_change (adj : Rat) (lots : List Lot) :
    (applyAdj adj lots).map (fun l => (l.ord, l.q, l.p, l.f, l.consumed))
      = lots.map (fun l => (l.ord, l.q, l.p, l.f, l.consumed)) := by
  rw [applyAdj_eq adj lots, List.map_map]
  refine List.map_congr_left fun l _ => ?_
  simp only [Function.comp, adjStep]
  split <;> rfl

theorem C11_spent_lots_untouched (adj : Rat) (lots : List Lot) (l : Lot) (hl : l ∈ lots)
    (h : ¬ l.held > 0) : l ∈ applyAdj adj lots := by
  rw [applyAdj_eq adj lots]
  exact List.mem_map.mpr ⟨l, hl, by simp [adjStep, h]⟩

/-- on a day without SELL lines the pre-pass leaves the day's purchase as the last lot, as it is built
    (restated by the day's split factor), and a lot so built has offset 0: in `prepassDay` the day's
    events are applied before the day's purchase is added. With SELL lines, under the pre-pass's
    invariants, the purchase's key (date, 0) still comes last: `tradeStage_keeps` -/
theorem C11_later_lot_keeps_zero_offset (t : String) (lots lots' : List Lot) (d : Day) (b : Trade)
    (hb : d.buy = some b) (hs : d.sells = []) (h : prepassDay t lots d = .ok lots') :
    ∃ pre, lots' = pre ++ [scaleLot d.r { ord := d.ord, q := b.q, p := b.p, f := b.f }] ∧
      (scaleLot d.r { ord := d.ord, q := b.q, p := b.p, f := b.f }).off = 0 := by
  rw [prepassDay_eq] at h
  cases hc : applyCaps t d.ord d.caps (d.accs.foldl accStep lots) with
  | error e => rw [hc] at h; cases h
  | ok mid =>
    rw [hc] at h
    cases h
    exact ⟨mid.map (scaleLot d.r), by simp [tradeStage, buyLot, hb, hs], scaleLot_off ..⟩

theorem C11_equal_events_cancel (v : Rat) (lots : List Lot) :
    (applyAdj (-v) (applyAdj v lots)).map (·.off) = lots.map (·.off) := by
  rw [applyAdj_eq (-v), totalHeld_applyAdj, applyAdj_eq v lots, List.map_map, List.map_map]
  refine List.map_congr_left fun l _ => ?_
  simp only [Function.comp]
  have hh : (adjStep v (totalHeld lots) l).held = l.held := adjStep_held ..
  unfold adjStep at hh ⊢
  by_cases hp : l.held > 0
  · simp only [hp, if_true] at hh ⊢
    have : ({ l with off := l.off + v * (l.held / totalHeld lots) } : Lot).held > 0 := by rw [hh]; exact hp
    simp only [this, if_true]
    grind
  · simp only [hp, if_false]

theorem C11_excess_is_refused (t : String) (ord : Int) (idx : Nat) (net : Rat) (cs : List (Nat × Rat))
    (lots : List Lot) (hne : lots.isEmpty = false) (h : net > totalAdjCost lots) :
    applyCaps t ord ((idx, net) :: cs) lots = .error ⟨.capReturnExceedsCost, t, ord, 0, 0, idx⟩ := by
  simp [applyCaps, hne, h]

theorem C11_dividend_is_inert (d : Day) (i : Nat) (v x : Rat) : d.add i (.dividend v x) = d := rfl

/-- D6 witness: 10 @ 100 bought, 1 sold, 1 @ 1 bought, capital return of 550 ≤ total cost of held lots:
    accepted, and the cheap lot ends with negative adjusted cost -/
def negativeLotWitness : List Day :=
  [ { date := ⟨2024, 1, 1⟩, buy := some ⟨0, 10, 100, 0⟩ },
    { date := ⟨2024, 2, 1⟩, sells := [⟨1, 1, 100, 0⟩] },
    { date := ⟨2024, 2, 5⟩, buy := some ⟨2, 1, 1, 0⟩ },
    { date := ⟨2024, 3, 1⟩, caps := [(3, 550)] } ]

def minAdjCost (r : Except MErr (List Lot)) : Rat :=
  match r with
  | .ok lots => lots.foldl (fun m l => min m l.adjCost) 0
  | .error _ => 0

example : minAdjCost (prepass "A" [] negativeLotWitness) < 0 := by decide +kernel

/-- what a SPLIT/UNSPLIT does to a lot in the pre-pass; later events are therefore apportioned over, and refused
    against, the lots as they stand in current units -/
theorem C11_split_restates_only_share_counts (r : Rat) (hr : r ≠ 0) (l : Lot) :
    (scaleLot r l).ord = l.ord ∧ (scaleLot r l).off = l.off ∧ (scaleLot r l).adjCost = l.adjCost ∧
    (scaleLot r l).held = l.held * r := by
  refine ⟨scaleLot_ord r l, scaleLot_off r l, ?_, scaleLot_held r l hr⟩
  have hinv : r * r⁻¹ = 1 := Rat.mul_inv_cancel _ hr
  unfold scaleLot Lot.adjCost
  simp only [hr, if_false, Rat.div_def]
  grind

/-- the D5 witness in the model: 10 bought, 2-for-1 split, 15 sold, then a capital return of 10 — accepted,
    all of it on the one lot, whose 5 remaining shares are counted in post-split units -/
example : (match prepass "A" [] [ { date := ⟨2024, 1, 1⟩, buy := some ⟨0, 10, 10, 0⟩ }, { date := ⟨2024, 2, 1⟩, r := 2 },
      { date := ⟨2024, 3, 1⟩, sells := [⟨2, 15, 10, 0⟩] }, { date := ⟨2024, 4, 1⟩, caps := [(3, 10)] } ] with
    | .ok lots => lots.map (fun l => (l.held, l.off))
    | .error _ => []) = [(5, -10)] := by decide +kernel

end Cgt.C11
