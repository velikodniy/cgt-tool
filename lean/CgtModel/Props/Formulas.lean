import CgtModel.Lemmas.Matcher
import CgtModel.Lemmas.Report
import CgtModel.Lemmas.Fx
/-! # The model's arithmetic is the source's arithmetic

`tools/extract.py` (group `formulas`) reads, on every run, the arithmetic of the matcher out of the Rust —
`compute_proceeds`, `match_section_104`, `match_same_day`, the lot accessors and `apply_cost_adjustment` of
acquisition_ledger.rs, the holding test of `process_sell`, `move_buy_to_pool`, `process_corporate_action`,
the helpers of the 30-day rule in bed_and_breakfast.rs and the three merges of `preprocess` — and, beside the
matcher, `calculate_totals` and the two report builders' net gain (calculator.rs) and `CurrencyAmount::to_gbp`
(cgt-money), and writes each expression as a Lean function over `Rat` (`Cgt.Gen.*` in `Generated.lean`). The
theorems below state that the hand-written model computes exactly those functions, for all arguments of the
branch each theorem names in its hypotheses (eight of them are about the one branch in which the source
evaluates the expression). An edit of one of these expressions in /repo changes `Generated.lean` and the
corresponding theorem stops checking; an edit that makes the statement untranslatable is reported by the
translator. What the theorems do not cover: control flow around the expressions (loops, map look-ups, the
look-ahead's walk), which stays with the correspondence check.

Three theorems mention no `Gen.*`: `proceeds_zero_guard`, `applyAdj_nothing_held`,
`toGbp_guards_are_source` say what the model does where the source has a guard instead of an
expression; the source side of each guard is an anchor of tools/extract.py, and a missing anchor fails the
whole group, not a theorem. One generated function, `Gen.sd_new_remaining` (`match_same_day`'s
`remaining - matched_qty`), is written by the translator and compared by no theorem. -/
namespace Cgt.Formulas
open Cgt

/-- `compute_proceeds`: gross and net proceeds of a matched quantity -/
theorem proceeds_is_source (m : Rat) (s : Trade) (h : s.q ≠ 0) :
    proceeds m s = (Gen.cp_gross_proceeds m s.q s.p s.f, Gen.cp_net_proceeds m s.q s.p s.f) := by
  simp [proceeds, h, Gen.cp_gross_proceeds, Gen.cp_net_proceeds, Gen.cp_fees, Gen.cp_proportion]

/-- the model's side of `compute_proceeds`' guard `sell_qty == 0` (no `Gen.*`: see the head) -/
theorem proceeds_zero_guard (m : Rat) (s : Trade) (h : s.q = 0) : proceeds m s = (0, 0) := by
  simp [proceeds, h]

/-- `match_section_104`: quantity, cost, pool update -/
theorem poolPart_is_source (d : Day) (p : Pool) (rem : Rat) (s : Trade) (hrem : rem > 0) (hq : p.q ≠ 0)
    (hs : s.q ≠ 0) (hm : min rem p.q ≠ 0) :
    poolPart d (some p) rem s =
      (some ⟨Gen.s104_new_quantity rem p.q p.c, Gen.s104_new_total_cost rem p.q p.c⟩, Gen.s104_new_remaining rem p.q p.c,
       [mkLeg d.date .section104 (Gen.s104_matched_qty rem p.q p.c) (Gen.s104_cost rem p.q p.c) s none]) := by
  simp [poolPart, hrem, hq, hs, hm, Gen.s104_new_quantity, Gen.s104_new_total_cost, Gen.s104_new_remaining,
    Gen.s104_matched_qty, Gen.s104_cost, Gen.s104_unit_cost]

/-- a leg's gain is net proceeds less allowable cost, as in both matching functions -/
theorem leg_gain_is_source (date : Date) (rule : Rule) (m cost : Rat) (s : Trade) (acq : Option Date) :
    (mkLeg date rule m cost s acq).gain = Gen.s104_gain (mkLeg date rule m cost s acq).net cost ∧
    (mkLeg date rule m cost s acq).gain = Gen.sd_gain (mkLeg date rule m cost s acq).net cost := by
  simp [mkLeg, Gen.s104_gain, Gen.sd_gain]

/-- `match_same_day`: the matched quantity (the whole sale is still unmatched at that stage) -/
theorem sameDayPart_is_source (d : Day) (b : Trade) (hb : d.buy = some b) (avail : Rat) (s : Trade)
    (h : avail > 0 ∧ s.q > 0) :
    sameDayPart d avail s =
      (Gen.sd_matched_qty s.q avail,
       [mkLeg d.date .sameDay (Gen.sd_matched_qty s.q avail) (Gen.sd_matched_qty s.q avail * unitCost b d.offset) s (some d.date)]) := by
  simp [sameDayPart, hb, h, Gen.sd_matched_qty]

/-- a purchase's unit cost: `adjusted_unit_cost` of `adjusted_cost` of `base_cost` — the nesting is the
    source's: the translator lets each accessor's body mention the next accessor only -/
theorem unitCost_is_source (b : Trade) (off : Rat) :
    unitCost b off = Gen.lot_adjusted_unit_cost (Gen.lot_adjusted_cost (Gen.lot_base_cost b.q b.p b.f) off) b.q := by
  simp [unitCost, Gen.lot_adjusted_unit_cost, Gen.lot_adjusted_cost, Gen.lot_base_cost]

theorem lot_is_source (l : Lot) :
    l.held = Gen.lot_held_for_adjustment l.q l.consumed ∧
    l.adjCost = Gen.lot_adjusted_cost (Gen.lot_base_cost l.q l.p l.f) l.off := by
  simp [Lot.held, Lot.adjCost, Gen.lot_held_for_adjustment, Gen.lot_adjusted_cost, Gen.lot_base_cost]

/-- `apply_cost_adjustment`: every lot still held gets its share by shares held; the others are left alone -/
theorem applyAdj_is_source (adj : Rat) (lots : List Lot) (h : totalHeld lots ≠ 0) :
    applyAdj adj lots = lots.map (fun l =>
      if l.held > 0 then { l with off := Gen.adj_new_offset l.off (Gen.adj_apportioned adj l.held (totalHeld lots)) } else l) := by
  simp [applyAdj, h, Gen.adj_new_offset, Gen.adj_apportioned]

/-- the model's side of `apply_cost_adjustment`'s guard `total_held == 0` (no `Gen.*`) -/
theorem applyAdj_nothing_held (adj : Rat) (lots : List Lot) (h : totalHeld lots = 0) : applyAdj adj lots = lots := by
  simp [applyAdj, h]

/-- the three merges of `preprocess` (adjacent BUYs, adjacent SELLs, coalesced BUYs): quantity-weighted price -/
theorem mergeTrade_is_source (q p f q' p' f' : Rat) :
    mergeTrade q p f q' p' f' =
      (q + q', if q + q' ≠ 0 then Gen.merge_price (Gen.merge_total q p q' p') (q + q') else p, f + f') := by
  simp [mergeTrade, Gen.merge_price, Gen.merge_total]

/-- `process_sell`: the holding a disposal is tested against, and the test -/
theorem sellStep_refusal_is_source (t : String) (w : Int) (d : Day) (st : MState) (s : Trade) (future : List Day) (cl : List Rat)
    (h : s.q > Gen.sell_total_held st.avail st.poolQ (outK d.r future cl)) :
    sellStep t w d st s future cl = .error ⟨.exceedsHolding, t, d.ord, 1, 1, s.idx⟩ := by
  rw [sellStep_eq]
  exact if_pos h

/-- the converse: the later refusals of `process_sell` are of other kinds -/
theorem sellStep_passes_is_source (t : String) (w : Int) (d : Day) (st : MState) (s : Trade) (future : List Day) (cl : List Rat)
    (e : MErr) (h : sellStep t w d st s future cl = .error e) (hk : e.kind = .exceedsHolding) :
    s.q > Gen.sell_total_held st.avail st.poolQ (outK d.r future cl) := by
  apply Decidable.byContradiction
  intro hgt
  rw [sellStep_eq, if_neg (show ¬ s.q > st.avail + st.poolQ - outK d.r future cl from hgt)] at h
  simp only at h
  split at h
  · split at h <;> (cases h; cases hk)
  · cases h

/-- `move_buy_to_pool` and `process_corporate_action`: what is left of the day's purchase joins the pool at
    its cost, then the day's split factor multiplies the pooled quantity -/
theorem poolAfter_is_source (d : Day) (b : Trade) (hb : d.buy = some b) (st : MState) (p : Pool) (hp : st.pool = some p)
    (ha : st.avail > 0) :
    poolAfter d st = some ⟨Gen.pool_add_quantity p.q st.avail * d.r, Gen.pool_add_cost p.c (st.avail * unitCost b d.offset)⟩ := by
  simp [poolAfter, hb, hp, ha, Gen.pool_add_quantity, Gen.pool_add_cost]

theorem splitFactor_is_source (q r : Rat) :
    q * splitFactor (.split r) = Gen.split_quantity q r ∧
    q * splitFactor (.unsplit r) = (if r ≠ 0 then Gen.unsplit_quantity q r else q) := by
  constructor
  · simp [splitFactor, Gen.split_quantity]
  · by_cases h : r = 0
    · simp [splitFactor, h]
    · simp [splitFactor, h, Gen.unsplit_quantity]
      grind

/-- `available_for_bnb_after_reservations`: what an earlier disposal may still claim of a later day's purchase -/
theorem availFor_is_source (e : Day) (c : Rat) : availFor e c = Gen.bnb_available e.B e.S c := by
  unfold availFor Gen.bnb_available
  grind

theorem lookahead_step_is_source (w : Int) (d0 : Date) (s : Trade) (rem k : Rat) (e : Day) (rest : List Day) (cl : List Rat)
    (b : Trade) (hb : e.buy = some b) (hrem : ¬ rem ≤ 0) (hwin : ¬ e.ord - d0.ord > w) (ha : ¬ availFor e (cl.headD 0) ≤ 0) :
    lookahead w d0 s rem k (e :: rest) cl =
      (let a := Gen.bnb_available e.B e.S (cl.headD 0)
       let ms := Gen.bnb_matched_qty_at_sell_time rem a k
       let mb := Gen.bnb_matched_qty_at_buy_time rem a k
       let r := lookahead w d0 s (rem - ms) (k * e.r) rest cl.tail
       (Gen.bnb_new_reserved (cl.headD 0) mb :: r.1,
        mkLeg d0 .bedAndBreakfast ms (Gen.bnb_matched_cost mb b.q b.p b.f e.offset) s (some e.date) :: r.2.1, r.2.2)) := by
  have hu : ∀ mb : Rat, mb * unitCost b e.offset = Gen.bnb_matched_cost mb b.q b.p b.f e.offset := by
    intro mb
    simp [unitCost, Gen.bnb_matched_cost, Gen.bnb_unit_cost, Gen.bnb_total_cost]
  rw [lookahead_take w d0 s rem k e rest cl b (Rat.not_le.mp hrem) (Int.not_lt.mp hwin) hb (Rat.not_le.mp ha)]
  simp only
  rw [hu, availFor_is_source]
  rfl

/-- `outstanding_bnb_claims`: a claim on a later purchase, brought back to the disposal day's units.
    The source adds the term only `if ratio != 0`; the model needs no guard, since `x / 0 = 0` in `Rat` -/
theorem outK_is_source (k : Rat) (e : Day) (rest : List Day) (cl : List Rat) :
    outK k (e :: rest) cl = Gen.bnb_outstanding_add (outK (k * e.r) rest cl.tail) (cl.headD 0) k := by
  simp only [outK, Gen.bnb_outstanding_add]
  grind

/-- `apply_split_ratio_effect`: how a day's SPLIT / UNSPLIT lines move the conversion factor. The proof
    is the pool's theorem: it is accepted because `Gen.bnb_ratio_split`/`_unsplit` and
    `Gen.split_quantity`/`unsplit_quantity`, read from two places of the source, unfold to the same
    expressions — and stops being accepted when either place changes -/
theorem ratio_effect_is_source (k r : Rat) :
    k * splitFactor (.split r) = Gen.bnb_ratio_split k r ∧
    k * splitFactor (.unsplit r) = (if r ≠ 0 then Gen.bnb_ratio_unsplit k r else k) :=
  splitFactor_is_source k r

/-- likewise: `Gen.bnb_gain` and `Gen.s104_gain` come from two functions and are one expression -/
theorem bnb_gain_is_source (date : Date) (m cost : Rat) (s : Trade) (acq : Option Date) :
    (mkLeg date .bedAndBreakfast m cost s acq).gain = Gen.bnb_gain (mkLeg date .bedAndBreakfast m cost s acq).net cost :=
  (leg_gain_is_source date .bedAndBreakfast m cost s acq).1

/-- `calculate_totals`: one disposal's net result joins the gains or the losses -/
theorem totals_is_source (d : Disposal) (ds : List Disposal) :
    totals (d :: ds) = (Gen.totals_gain_step (totals ds).1 d.netGain, Gen.totals_loss_step (totals ds).2 d.netGain) := by
  simp only [totals, Gen.totals_gain_step, Gen.totals_loss_step, rabs]
  by_cases h1 : d.netGain > 0
  · simp [h1]
  · by_cases h2 : d.netGain < 0
    · simp [h1, h2]
    · simp [h1, h2]

/-- the net gain of a year's summary is total gains less total losses, in both report builders -/
theorem netGain_is_source (ex : List (Int × Rat)) (l : List Tx) (y : Int) (ds : List Disposal) (sm : YearSummary)
    (h : mkSummary ex l y ds = .ok sm) : sm.netGain = Gen.net_gain sm.totalGain sm.totalLoss := by
  obtain ⟨_, _, rfl⟩ := mkSummary_ok.mp h
  rfl

/-- `CurrencyAmount::to_gbp`, its last case: an amount that is neither sterling nor zero is divided by
    the rate per pound -/
theorem toGbp_is_source (c : Cache) (d : Date) (a : CAmt) (r : Rat) (hc : a.cur ≠ "GBP") (hz : a.amt ≠ 0)
    (hr : c.get (a.cur, d.y, d.m) = some r) : toGbpAmt c d a = .ok (Gen.fx_to_gbp a.amt r) :=
  toGbpAmt_rate c d hc hz hr

/-- the model's side of its two guards: sterling as it is, a zero amount is zero pounds whatever the
    rate (no `Gen.*`) -/
theorem toGbp_guards_are_source (c : Cache) (d : Date) (a : CAmt) :
    (a.cur = "GBP" → toGbpAmt c d a = .ok a.amt) ∧ (a.cur ≠ "GBP" → a.amt = 0 → toGbpAmt c d a = .ok 0) :=
  ⟨toGbpAmt_gbp c d, fun _ => toGbpAmt_zero c d⟩

end Cgt.Formulas
