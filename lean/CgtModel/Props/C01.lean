import CgtModel.Lemmas.SpecTable
import CgtModel.Lemmas.RawShape
import CgtModel.Props.Formulas
-- Props.Formulas is also the route to Lemmas/Report (`run`, `TickerResult`, `C02.run_result`); no proof below uses
-- a `Formulas` theorem: the audit of C01 reaches the `Formulas.*` names listed under it through this import
/-! # C01 — Same Day, then 30-day (earliest first), then Section 104

Full statement: for every accepted ledger, rule / quantity / acquisition date of every leg (and costs,
proceeds, gain without cost events) equal an independent exact evaluation of s105(1), s106A, s104; an
acquisition on D+30 is in the window, one on D+31 or on/before D is not.

`def C01_statement` below states the quantities of it against `Spec.identifyAll` at ledger level: the closing
quantity and, per disposal date, rule and acquisition date, the quantity matched. Proved:

* `C01_matcher_is_statute` — for one security's day list without capital returns / accumulations and with
  at most one SELL line per day after merging, the matcher (cost pre-pass + single main pass with carried
  claims) produces exactly the legs — rule, quantity, allowable cost, acquisition date, in order — and the
  closing pool (quantity and cost) that `Spec`'s claims matrix (pass 2) and pool walk (pass 3) produce on
  the same days. `Lemmas/SpecEquiv.lean`: the look-ahead of a disposal is its row of the matrix; the
  carried claims are the column sums; the day step is the walk step.
* `C01_ledger` — **from the raw ledger**: for every validator-clean ledger with valid dates that the matcher
  accepts, every security whose own days carry no cost event and at most one SELL line each (after merging)
  has the legs and closing pool of `Spec.identify` on the raw ledger. `Lemmas/SpecTable.lean`: `Spec.table t l`, built by insertion
  from the raw lines, is `daysOf t (preprocess l)` seen through `ofDay` (insertion commutes, fills merge as
  they absorb, grouping is insertion from the last line to the first).
* `C01_ledger_events` — the same **with capital returns and accumulations allowed**: the matcher identifies
  exactly as `Spec` does on the day table built from the raw lines with each purchase costed at
  consideration + fees + the offset the cost pre-pass left on it (`C01_matcher_is_statute_with_events`;
  what the offsets are is C03's and C11's subject).
* `C01_legs_in_window` — the window clause **for every accepted ledger, with no hypothesis on the input**: every
  leg is dated one of its security's days D; a Same-Day leg is acquired on D, a pool leg has no acquisition day,
  and no 30-day leg's acquisition lies outside (D, D+30] (`LegWin`). Read off `C01_legs_from`: every leg is
  `mkLeg` of a SELL line under one of three (rule, acquisition day) pairs (`LegFrom`, Lemmas/LegShape.lean).

Also proved, the priority structure the statute prescribes, on one SELL line and its look-ahead:

* `window_pinned`, `C01_window` — a 30-day leg's acquisition lies at most `bnbWindowDays = 30` days
  after the disposal, and strictly after it when the following days are later days; a day at exactly
  D+30 *is* examined (`C01_edge_day_is_used`), a day beyond is not (`C01_beyond_window_unused`);
* `C01_rule_order` — the legs of a SELL are [Same Day]? ++ 30-day* ++ [Section 104]?;
* `C01_same_day_first` — the Same-Day leg takes min(sold, available same-day shares): nothing goes to
  the other rules while same-day shares remain;
* `C01_thirty_day_before_pool` — if anything is left for the pool after the look-ahead, every
  purchase in the window is exhausted (its availability, net of the shares its own day's disposals
  own and of earlier claims, is 0);
* `C01_earliest_first` — the look-ahead takes from the earliest eligible purchase as much as that
  purchase can give before it looks at a later one.

`C01_statement` itself is evaluated on every run by the correspondence check, for the
implementation's output and for the model's (evidence: `model-vs-spec-disagreements`).
-/
namespace Cgt.C01
open Cgt

theorem window_pinned : bnbWindowDays = 30 := by decide

def foldKey (l : Leg) : Rule × Option Date := (l.rule, l.acq)

/-- stated, not proved (see the header); no cost, proceeds or gain in it -/
def C01_statement : Prop :=
  ∀ (l : List Tx) (rs : List TickerResult), run bnbWindowDays l = .ok rs →
    ∀ r ∈ rs, ∀ s ∈ Spec.identifyAll bnbWindowDays l, s.ticker = r.ticker →
      poolQ' r.pool = s.poolQ ∧
      ∀ d ∈ s.disposals, ∀ sl ∈ d.legs,
        rsum ((r.legs.filter (fun x => x.sellDate = d.date ∧ x.rule = sl.rule ∧ x.acq = sl.acq)).map (·.qty)) = sl.qty

theorem C01_window (w : Int) (d0 : Date) (s : Trade) (fs : List Day) :
    ∀ (rem k : Rat) (cl : List Rat), ∀ l ∈ (lookahead w d0 s rem k fs cl).2.1,
      ∃ e ∈ fs, l.acq = some e.date ∧ e.ord - d0.ord ≤ w := by
  intro rem k cl l hl
  obtain ⟨e, he, hw, _, _, rfl⟩ := lookahead_legs w d0 s rem k fs cl l hl
  exact ⟨e, he, rfl, hw⟩

/-- `hlater`: a security's day list is date-ordered (`daysOf_strict`) — so an acquisition on or before D is
    never a 30-day match -/
theorem C01_window_strict (w : Int) (d0 : Date) (s : Trade) (fs : List Day)
    (hlater : ∀ e ∈ fs, d0.ord < e.ord) (rem k : Rat) (cl : List Rat) :
    ∀ l ∈ (lookahead w d0 s rem k fs cl).2.1,
      ∃ e ∈ fs, l.acq = some e.date ∧ 0 < e.ord - d0.ord ∧ e.ord - d0.ord ≤ w := by
  intro l hl
  obtain ⟨e, he, h1, h2⟩ := C01_window w d0 s fs rem k cl l hl
  exact ⟨e, he, h1, by have := hlater e he; omega, h2⟩

theorem C01_edge_day_is_used (w : Int) (d0 : Date) (s : Trade) (e : Day) (rest : List Day) (b : Trade)
    (rem k : Rat) (cl : List Rat) (hrem : 0 < rem) (hedge : e.ord - d0.ord = w) (hb : e.buy = some b)
    (ha : 0 < availFor e (cl.headD 0)) :
    ∃ leg legs, (lookahead w d0 s rem k (e :: rest) cl).2.1 = leg :: legs ∧ leg.acq = some e.date ∧
      leg.qty = min rem (availFor e (cl.headD 0) / k) := by
  rw [lookahead_take w d0 s rem k e rest cl b hrem (Int.le_of_eq hedge) hb ha]
  exact ⟨_, _, rfl, rfl, rfl⟩

theorem C01_beyond_window_unused (w : Int) (d0 : Date) (s : Trade) (e : Day) (rest : List Day)
    (rem k : Rat) (cl : List Rat) (hout : e.ord - d0.ord > w) :
    lookahead w d0 s rem k (e :: rest) cl = (cl, [], rem) :=
  lookahead_stop w d0 s rem k _ cl (.inr hout)

theorem C01_rule_order (t : String) (w : Int) (d : Day) (st : MState) (s : Trade)
    (future : List Day) (cl : List Rat) (st' : MState) (cl' : List Rat) (legs : List Leg)
    (h : sellStep t w d st s future cl = .ok (st', cl', legs)) :
    ∃ a b c, legs = a ++ b ++ c ∧ a.length ≤ 1 ∧ c.length ≤ 1 ∧
      (∀ l ∈ a, l.rule = .sameDay ∧ l.acq = some d.date) ∧
      (∀ l ∈ b, l.rule = .bedAndBreakfast) ∧ (∀ l ∈ c, l.rule = .section104 ∧ l.acq = none) := by
  obtain ⟨sd, la, p3, hsd, hla, hp3, -, -, -, -, rfl⟩ := sellStep_ok h
  have hb : ∀ l ∈ la.2.1, l.rule = .bedAndBreakfast := fun l hl => by
    obtain ⟨_, _, _, _, _, rfl⟩ := lookahead_legs _ _ _ _ _ _ _ l (hla ▸ hl)
    rfl
  refine ⟨_, _, _, rfl, ?_⟩
  -- the outer two parts are empty or one `mkLeg` each
  rcases sameDayPart_cases d st.avail s with ⟨e, -⟩ | ⟨b, -, -, -, e⟩ <;>
    rcases poolPart_cases d st.pool la.2.2 s with ⟨e', -⟩ | ⟨p, -, -, -, -, -, e'⟩ <;>
    rw [hsd, hp3, e, e'] <;> simpa [mkLeg] using hb

theorem C01_same_day_first (d : Day) (avail : Rat) (s : Trade) (b : Trade) (hb : d.buy = some b)
    (ha : 0 ≤ avail) (hs : 0 ≤ s.q) :
    (sameDayPart d avail s).1 = min s.q avail := by
  rcases sameDayPart_cases d avail s with ⟨e, h⟩ | ⟨b', -, -, -, e⟩ <;> rw [e]
  · rcases h with h | h | h
    · rw [hb] at h
      cases h
    · grind
    · grind

/-- walks as `lookahead` does: every purchase up to the first day beyond the window has nothing left to give;
    of the days after that one it says nothing (on a date-ordered list they are beyond the window too) -/
def Exhausted (w : Int) (d0 : Date) : List Day → List Rat → Prop
  | [], _ => True
  | e :: rest, cl =>
    e.ord - d0.ord > w ∨ ((e.buy ≠ none → availFor e (cl.headD 0) ≤ 0) ∧ Exhausted w d0 rest cl.tail)

theorem C01_thirty_day_before_pool (w : Int) (d0 : Date) (s : Trade) (fs : List Day) :
    ∀ (rem k : Rat) (cl : List Rat), 0 < k → ratiosPos fs → 0 ≤ rem →
      0 < (lookahead w d0 s rem k fs cl).2.2 → Exhausted w d0 fs (lookahead w d0 s rem k fs cl).1 := by
  intro rem k cl
  induction rem, k, fs, cl using lookahead_induction w d0 s with
  | stop rem k fs cl h =>
    intro _ _ hrem hpos
    cases fs with
    | nil => trivial
    | cons e rest => exact .inl (h.resolve_left (Rat.not_le.mpr hpos))
  | skip rem k e rest cl _ _ h r _ ih =>
    intro hk hrp hrem hpos
    refine .inr ⟨fun hb => h.resolve_left hb, ih (Rat.mul_pos hk hrp.1) hrp.2 hrem hpos⟩
  | take rem k e rest cl b _ _ _ ha ms hms r hr ih =>
    intro hk hrp hrem hpos
    replace hpos : 0 < r.2.2 := hpos
    have hle : ms ≤ rem := by grind
    obtain ⟨-, -, -, h4, -⟩ :=
      lookahead_accounts w d0 s (rem - ms) (k * e.r) rest cl.tail (Rat.mul_pos hk hrp.1) hrp.2 (by grind)
    rw [← hr] at h4
    refine .inr ⟨fun _ => ?_, ih (Rat.mul_pos hk hrp.1) hrp.2 (by grind) hpos⟩
    -- something is left, so this purchase gave all it had
    have hall : ms * k = availFor e (cl.headD 0) := hms ▸ take_all hk (by grind)
    show availFor e (cl.headD 0 + ms * k) ≤ 0
    rw [hall]
    exact availFor_exhausted ha

theorem C01_earliest_first (w : Int) (d0 : Date) (s : Trade) (e : Day) (rest : List Day) (b : Trade)
    (rem k : Rat) (cl : List Rat) (hrem : 0 < rem) (hin : e.ord - d0.ord ≤ w) (hb : e.buy = some b)
    (ha : 0 < availFor e (cl.headD 0)) :
    let ms := min rem (availFor e (cl.headD 0) / k)
    (lookahead w d0 s rem k (e :: rest) cl).2.1 =
      mkLeg d0 .bedAndBreakfast ms (ms * k * unitCost b e.offset) s (some e.date) ::
        (lookahead w d0 s (rem - ms) (k * e.r) rest cl.tail).2.1 := by
  rw [lookahead_take w d0 s rem k e rest cl b hrem hin hb ha]

-- a test vector: the D1 shape (two earlier disposals, a purchase with its own same-day disposal)
def exDays : List Day :=
  [ { date := ⟨2024, 1, 1⟩, buy := some ⟨0, 1000, 1, 0⟩ },
    { date := ⟨2024, 2, 1⟩, sells := [⟨1, 100, 2, 0⟩] },
    { date := ⟨2024, 2, 2⟩, sells := [⟨2, 100, 2, 0⟩] },
    { date := ⟨2024, 2, 10⟩, buy := some ⟨3, 80, 3, 0⟩, sells := [⟨4, 50, 4, 0⟩] } ]

def legRules (r : Except MErr (Option Pool × List Leg)) : List (Rule × Rat) :=
  match r with
  | .ok (_, legs) => legs.map (fun l => (l.rule, l.qty))
  | .error _ => []

example : legRules (runTicker "A" 30 exDays) =
    [(.bedAndBreakfast, 30), (.section104, 70), (.section104, 100), (.sameDay, 50)] := by decide +kernel

theorem C01_legs_from (l : List Tx) (rs : List TickerResult) (h : run bnbWindowDays l = .ok rs) :
    ∀ r ∈ rs, ∀ x ∈ r.legs, ∃ d post, d :: post <:+ daysOf r.ticker (preprocess l) ∧
      ∃ s ∈ d.sells, LegFrom bnbWindowDays d post s x :=
  fun r hr => runTicker_legs (C02.run_result bnbWindowDays l rs h r hr)

/-- **C01, window and rule ↔ acquisition date**, for every ledger the matcher accepts, with no hypothesis on
    the input: no 30-day leg is acquired outside (D, D+30] (`LegWin`); that a purchase on D+30 *is* used is
    `C01_edge_day_is_used` -/
theorem C01_legs_in_window (l : List Tx) (rs : List TickerResult) (h : run bnbWindowDays l = .ok rs) :
    ∀ r ∈ rs, ∀ x ∈ r.legs, ∃ d ∈ daysOf r.ticker (preprocess l), LegWin 30 d.date x := by
  intro r hr x hx
  obtain ⟨d, post, hsuf, s, -, hfrom⟩ := C01_legs_from l rs h r hr x hx
  exact window_pinned ▸ hfrom.legWin_of_suffix hsuf (daysOf_strict l r.ticker)

theorem C01_matcher_is_statute (t : String) (ds : List Day)
    (hok : daysOk ds) (hne : noEvents ds) (hone : ∀ d ∈ ds, d.sells.length ≤ 1) (h0 : ∀ d ∈ ds, d.offset = 0)
    (pool : Option Pool) (legs : List Leg) (h : runTicker t bnbWindowDays ds = .ok (pool, legs)) :
    let sp := identifyTbl bnbWindowDays (ds.map ofDay)
    sp.2.1 = poolQ' pool ∧ sp.2.2 = poolC' pool ∧
    legs.map legView = sp.1.flatMap (fun dsp => dsp.legs.map slegView) :=
  runTicker_eq_spec t bnbWindowDays ds hok hne hone h0 pool legs h

theorem C01_matcher_is_statute_with_events (t : String) (ds : List Day)
    (hok : daysOk ds) (hone : ∀ d ∈ ds, d.sells.length ≤ 1)
    (pool : Option Pool) (legs : List Leg) (h : runTicker t bnbWindowDays ds = .ok (pool, legs)) :
    ∃ lots, prepass t [] ds = .ok lots ∧
      (let sp := identifyTbl bnbWindowDays ((ds.map (fun d => { d with offset := offsetFor d.ord lots })).map ofDay)
       sp.2.1 = poolQ' pool ∧ sp.2.2 = poolC' pool ∧
       legs.map legView = sp.1.flatMap (fun dsp => dsp.legs.map slegView)) :=
  runTicker_eq_spec_offsets t bnbWindowDays ds hok hone pool legs h

theorem C01_ledger (l : List Tx) (hw : WellFormed l) (hd : Spec.DatesOk l) (rs : List TickerResult)
    (h : run bnbWindowDays l = .ok rs) :
    ∀ r ∈ rs, noEvents (daysOf r.ticker (preprocess l)) →
      (∀ d ∈ daysOf r.ticker (preprocess l), d.sells.length ≤ 1) →
      let s := Spec.identify bnbWindowDays r.ticker l
      s.poolQ = poolQ' r.pool ∧ s.poolC = poolC' r.pool ∧
      r.legs.map legView = s.disposals.flatMap (fun dsp => dsp.legs.map slegView) := by
  intro r hr hne hone
  have hrun := C02.run_result bnbWindowDays l rs h r hr
  have := C01_matcher_is_statute r.ticker _ (wellFormed_days l hw r.ticker).1 hne hone (daysOf_offset r.ticker _) r.pool r.legs hrun
  rw [← table_eq_days r.ticker l hw hd, ← identify_eq] at this
  exact this

/-- **C01 with every hypothesis on the input**: the two side conditions of `C01_ledger` read off the raw lines
    (`Lemmas/RawShape.lean`) — no CAPRETURN / ACCUMULATION line of the security, its SELL lines on pairwise
    different days -/
theorem C01_ledger_raw (l : List Tx) (hw : WellFormed l) (hd : Spec.DatesOk l) (rs : List TickerResult)
    (h : run bnbWindowDays l = .ok rs) :
    ∀ r ∈ rs, noEventLines r.ticker l → oneSellPerDay r.ticker l →
      let s := Spec.identify bnbWindowDays r.ticker l
      s.poolQ = poolQ' r.pool ∧ s.poolC = poolC' r.pool ∧
      r.legs.map legView = s.disposals.flatMap (fun dsp => dsp.legs.map slegView) := by
  intro r hr hne hone
  exact C01_ledger l hw hd rs h r hr (noEvents_of_raw r.ticker l hne) (oneSell_of_raw r.ticker l hone)

/-- of two accepted ledgers in the class of `C01_ledger_raw` for security `t`, what `Spec` finds equal (the
    closing pool, and the legs seen through `π`) the matcher finds equal too -/
theorem ledger_congr {β : Type} (π : Rule × Rat × Rat × Option Date → β) (t : String) (l l' : List Tx)
    (hw : WellFormed l) (hd : Spec.DatesOk l) (hne : noEventLines t l) (hone : oneSellPerDay t l)
    (hw' : WellFormed l') (hd' : Spec.DatesOk l') (hne' : noEventLines t l') (hone' : oneSellPerDay t l')
    (hs : (Spec.identify bnbWindowDays t l').disposals.flatMap (fun d => d.legs.map fun x => π (slegView x))
            = (Spec.identify bnbWindowDays t l).disposals.flatMap (fun d => d.legs.map fun x => π (slegView x)) ∧
          (Spec.identify bnbWindowDays t l').poolQ = (Spec.identify bnbWindowDays t l).poolQ ∧
          (Spec.identify bnbWindowDays t l').poolC = (Spec.identify bnbWindowDays t l).poolC)
    (rs rs' : List TickerResult) (h : run bnbWindowDays l = .ok rs) (h' : run bnbWindowDays l' = .ok rs') :
    ∀ r ∈ rs, ∀ r' ∈ rs', r.ticker = t → r'.ticker = t →
      r'.legs.map (fun x => π (legView x)) = r.legs.map (fun x => π (legView x)) ∧
        poolQ' r'.pool = poolQ' r.pool ∧ poolC' r'.pool = poolC' r.pool := by
  intro r hr r' hr' ht ht'
  subst ht
  have c := C01_ledger_raw l hw hd rs h r hr hne hone
  have c' := C01_ledger_raw l' hw' hd' rs' h' r' hr' (ht' ▸ hne') (ht' ▸ hone')
  rw [ht'] at c'
  have v := congrArg (List.map π) c.2.2
  have v' := congrArg (List.map π) c'.2.2
  rw [List.map_map, List.map_flatMap] at v v'
  simp only [List.map_map] at v v'
  exact ⟨v'.trans (hs.1.trans v.symm), c'.1.symm.trans (hs.2.1.trans c.1), c'.2.1.symm.trans (hs.2.2.trans c.2.1)⟩

-- non-vacuity: the D1 shape as raw lines (shuffled, the purchase recorded as two fills, a second
-- security with a capital return alongside) meets the three decidable hypotheses for security "A". Its
-- dates are plainly valid; acceptance is not checked here (`run` sorts with `List.mergeSort`, which `decide`
-- does not reduce): the harness runs this ledger through the real matcher and the model driver
-- (corpus/matcher/raw_shape.cgt)
def exRaw : List Tx :=
  [ ⟨⟨2024, 2, 10⟩, "A", .sell 50 4 0⟩, ⟨⟨2024, 2, 1⟩, "A", .sell 100 2 0⟩,
    ⟨⟨2024, 1, 1⟩, "A", .buy 600 1 0⟩, ⟨⟨2024, 1, 1⟩, "B", .buy 10 1 0⟩, ⟨⟨2024, 1, 1⟩, "A", .buy 400 1 0⟩,
    ⟨⟨2024, 2, 2⟩, "A", .sell 100 2 0⟩, ⟨⟨2024, 3, 1⟩, "B", .capreturn 10 3 0⟩, ⟨⟨2024, 2, 10⟩, "A", .buy 80 3 0⟩ ]

example : WellFormed exRaw ∧ noEventLines "A" exRaw ∧ oneSellPerDay "A" exRaw ∧ ¬ noEventLines "B" exRaw := by
  decide +kernel

section Events
open Spec

/-- `Spec`'s table has no offset field: the offset the cost pre-pass left on a purchase day is added to its
    `Bcost`. `if sd.B = 0`: `ofDay` gives a day without a purchase `Bcost = 0` whatever its offset -/
def adjCost (off : Int → Rat) (sd : SDay) : SDay :=
  if sd.B = 0 then sd else { sd with Bcost := sd.Bcost + off sd.date.ord }

theorem ofDay_setOffset (off : Int → Rat) (d : Day) (h0 : d.offset = 0) (hpos : ∀ b, d.buy = some b → 0 < b.q) :
    ofDay { d with offset := off d.ord } = adjCost off (ofDay d) := by
  unfold adjCost
  cases hb : d.buy with
  | none =>
    rw [if_pos (show (ofDay d).B = 0 from Day.B_none hb)]
    apply SDay.ext' <;> simp [ofDay, Day.B, Day.S, hb]
  | some b =>
    have hq := hpos b hb
    rw [if_neg (show ¬ (ofDay d).B = 0 by rw [ofDay_B, Day.B_some hb]; grind)]
    apply SDay.ext' <;> simp [ofDay, Day.B, Day.S, Day.ord, hb, h0, Rat.add_zero]

theorem table_adjCost (l : List Tx) (hw : WellFormed l) (hd : DatesOk l) (t : String) (off : Int → Rat) :
    ((daysOf t (preprocess l)).map (fun d => { d with offset := off d.ord })).map ofDay
      = (table t l).map (adjCost off) := by
  rw [table_eq_days t l hw hd, List.map_map, List.map_map]
  exact List.map_congr_left fun d hdm => ofDay_setOffset off d (daysOf_offset t _ d hdm) (daysOf_pos hw t d hdm).2.2

theorem C01_ledger_events (l : List Tx) (hw : WellFormed l) (hd : Spec.DatesOk l) (rs : List TickerResult)
    (h : run bnbWindowDays l = .ok rs) :
    ∀ r ∈ rs, oneSellPerDay r.ticker l →
      ∃ lots, prepass r.ticker [] (daysOf r.ticker (preprocess l)) = .ok lots ∧
        (let sp := identifyTbl bnbWindowDays ((table r.ticker l).map (adjCost (fun o => offsetFor o lots)))
         sp.2.1 = poolQ' r.pool ∧ sp.2.2 = poolC' r.pool ∧
         r.legs.map legView = sp.1.flatMap (fun dsp => dsp.legs.map slegView)) := by
  intro r hr hone
  have hrun := C02.run_result bnbWindowDays l rs h r hr
  have hdays := wellFormed_days l hw r.ticker
  obtain ⟨lots, hp, hsp⟩ := C01_matcher_is_statute_with_events r.ticker _ hdays.1
    (oneSell_of_raw r.ticker l hone) r.pool r.legs hrun
  refine ⟨lots, hp, ?_⟩
  rw [table_adjCost l hw hd r.ticker fun o => offsetFor o lots] at hsp
  exact hsp

end Events

/-- the order in which `process_sell` tries the rules, as the translator reads it on every run (group
    `cascade`): Same Day, then the 30-day rule, then the Section 104 pool — the order `sellStep` models -/
theorem C01_cascade_as_modelled : Cgt.matchCascade = ["same_day", "bed_and_breakfast", "section104"] := by decide

end Cgt.C01
