import CgtModel.Props.C04
import CgtModel.Props.C01
-- for tools/audit.py only, which imports this file to print the axioms of the theorems obligations.json lists under
-- C09, `C14.json_ticker_case` among them; nothing below uses it
import CgtModel.Props.C14
/-! # C09 — securities are independent; tickers are case-insensitive

Full statement: transactions in one security never change the disposals, legs, costs or holding of
another: the report for several securities equals the combination of the reports for each security's
transactions alone (tax-year totals adding up); ticker spelling differing only in case denotes the
same security in every input format.

Proved for the model:
* `C09_result_depends_only_on_own_days` — the legs and pool reported for security `t` are a function of
  `daysOf t (preprocess l)` alone — the days built from `t`'s own lines of the preprocessed ledger;
* `C09_days_ignore_other_securities` — that day list is unchanged (up to the line indices, which are
  only used to order errors) when every line of every other security is deleted from the
  preprocessed ledger. These two do not compose: the first asks for equal day lists, the second gives
  them equal up to the line indices, and no lemma says that the run reads the indices only into its errors;
* `C09_totals_add` — a year's total gain and loss over a combined disposal list are the sums over the
  parts (so per-security totals add up), in any order of combination.
* `C09_ledger_alone` — **for the matcher model, from the raw ledger** (through `C01_ledger_raw` and `Spec`'s
  day table, which reads a security's own lines only; not through the two theorems above): the whole
  ledger against one security's own lines, both validator-clean with dates in `Spec.DatesOk` and accepted: a
  security without capital events whose SELL lines fall on different days has the same legs (rule,
  quantity, allowable cost, acquisition date, in order) and the same closing pool either way.
Not proved: the same for securities with capital events or several SELL lines on a day — for the latter
it is false on the code as it is (known finding D17: adjacent SELL lines are merged, and a line of
another security between them prevents that); the check compares report(all) with the combination of
per-security reports on the real code, leg by leg outside that class and per (rule, acquisition date)
inside it.
Ticker case (DSL parser, JSON deserialiser) is exercised by the check on the real parser and serde
paths. In the model only the JSON reader has a theorem (`C14.json_ticker_case`, about the case of ASCII
letters); the DSL reader upper-cases by definition (`pTicker`), and its ticker case is observed only.
-/
namespace Cgt.C09
open Cgt Spec

theorem C09_result_depends_only_on_own_days (w : Int) (l l' : List Tx) (rs rs' : List TickerResult)
    (h : run w l = .ok rs) (h' : run w l' = .ok rs') (r : TickerResult) (r' : TickerResult)
    (hr : r ∈ rs) (hr' : r' ∈ rs') (ht : r.ticker = r'.ticker)
    (hd : daysOf r.ticker (preprocess l) = daysOf r.ticker (preprocess l')) :
    r.pool = r'.pool ∧ r.legs = r'.legs := by
  have a := C02.run_result w l rs h r hr
  have b := C02.run_result w l' rs' h' r' hr'
  rw [← ht, ← hd, a] at b
  simp only [Except.ok.injEq, Prod.mk.injEq] at b
  exact b

def _root_.Cgt.Trade.core (x : Trade) : Rat × Rat × Rat := (x.q, x.p, x.f)
def _root_.Cgt.Day.core (d : Day) : Date × Option (Rat × Rat × Rat) × List (Rat × Rat × Rat) × Rat × List Rat × List Rat :=
  (d.date, d.buy.map Trade.core, d.sells.map Trade.core, d.r, d.accs, d.caps.map (·.2))

theorem _root_.Cgt.Day.reindex_core (ρ : Nat → Nat) (d : Day) : (d.reindex ρ).core = d.core := by
  simp only [Day.core, Day.reindex, Option.map_map, List.map_map]
  rfl

/-- `daysOf_filter_reindex` says how the line indices differ -/
theorem C09_days_ignore_other_securities (t : String) (pre : List Tx) :
    (daysOf t pre).map Day.core = (daysOf t (pre.filter (fun x => x.ticker = t))).map Day.core := by
  obtain ⟨ρ, h⟩ := daysOf_filter_reindex t pre
  rw [h, List.map_map]
  exact List.map_congr_left fun d _ => Day.reindex_core ρ d

theorem C09_totals_add (a b : List Disposal) :
    (totals (a ++ b)).1 = (totals a).1 + (totals b).1 ∧ (totals (a ++ b)).2 = (totals a).2 + (totals b).2 := by
  have ha := C04.C04_totals a
  have hb := C04.C04_totals b
  have hab := C04.C04_totals (a ++ b)
  rw [hab.1, hab.2, ha.1, ha.2, hb.1, hb.2]
  simp only [List.map_append, rsum_append]
  exact ⟨trivial, trivial⟩

def alone (t : String) (l : List Tx) : List Tx := l.filter (fun x => x.ticker = t)

theorem C09_ledger_alone (l : List Tx) (hw : WellFormed l) (hd : Spec.DatesOk l) (t : String)
    (hne : noEventLines t l) (hone : oneSellPerDay t l)
    (rs rs' : List TickerResult) (h : run bnbWindowDays l = .ok rs) (h' : run bnbWindowDays (alone t l) = .ok rs') :
    ∀ r ∈ rs, ∀ r' ∈ rs', r.ticker = t → r'.ticker = t →
      r'.legs.map legView = r.legs.map legView ∧ poolQ' r'.pool = poolQ' r.pool ∧ poolC' r'.pool = poolC' r.pool := by
  intro r hr r' hr' ht ht'
  have hsub : ∀ x ∈ alone t l, x ∈ l := fun x hx => (List.mem_filter.mp hx).1
  have hw' : WellFormed (alone t l) := fun x hx => hw x (hsub x hx)
  have hd' : Spec.DatesOk (alone t l) := hd.filter _
  have hne' : noEventLines t (alone t l) := fun x hx => hne x (hsub x hx)
  have hone' : oneSellPerDay t (alone t l) := by unfold oneSellPerDay alone; rw [sellOrds_filter_ticker]; exact hone
  exact C01.ledger_congr id t l (alone t l) hw hd hne hone hw' hd' hne' hone'
    (identify_of_table (table_filter t l) _ ▸ ⟨rfl, rfl, rfl⟩) rs rs' h h' r hr r' hr' ht ht'

end Cgt.C09
