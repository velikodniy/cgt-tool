import CgtModel.Props.C03
import CgtModel.Props.C04
import CgtModel.Props.C01
import CgtModel.Lemmas.SpecTwin
/-! # C10 — splits only rescale share counts; they never create gain, loss or cost

Statement: a SPLIT/UNSPLIT changes the number of shares held and nothing else: rewriting a ledger in
post-split units yields the same gains, losses, proceeds, allowable costs and closing cost; SPLIT r
followed by UNSPLIT r with no trade between changes nothing.

Proved for the model:
* `C10_split_unsplit_same_day_cancel` — SPLIT r and UNSPLIT r (r ≠ 0) on one day leave the day record
  unchanged; `C10_factor_one_day_is_transparent` — a day with no trade and factor 1 changes neither
  pool quantity nor pool cost and emits no legs;
* `C10_cost_never_depends_on_splits` — for some assignment `f` of an offset to each day, Σ legs' allowable
  cost + closing cost is Σ purchases' (quantity × price + fees + `f day`). The statement does not say which
  `f`; that it is the cost pre-pass's offsets is C03's (`C03_main_pass_conserves`, `runTicker_cost`), and what
  these add up to `C03_security_full`;
* `C10_closing_quantity_only_rescaled` — the closing quantity is Σ (bought − sold) each multiplied by
  the factors dated from its own day on (C02);
* `C10_proceeds_never_depend_on_splits` — the proceeds of a SELL's legs are quantity × price − fees of
  that line (C04).
No theorem puts these together into "total gains + closing cost of a history are the same whatever splits
it contains".
* **the post-split twin** — `Spec.identifyTbl_gauge` (`Lemmas/SpecGauge.lean`): units are a gauge of the
  statutory evaluation: counting day `i`'s shares in units `g i` times finer (quantities × `g i`, split
  factors × `g (i+1) / g i`, money untouched) changes no disposal's proceeds or gain and no leg's rule,
  allowable cost or acquisition date, and only rescales the closing quantity; `Spec.identify_twin`
  (`Lemmas/SpecTwin.lean`): rewriting the trades dated on or before a split day in post-split units and
  neutralising the split line is such a change of gauge of the day table built from the raw lines;
  `C10_ledger_twin`: hence, for the matcher model from the raw ledger (through `C01_ledger_raw`): if the
  ledger is validator-clean with dates that are `Spec.DatesOk` and it and its twin are accepted, a security
  without capital events whose SELL lines fall on different days has, leg for leg and in order, the same rule,
  allowable cost and acquisition date in both, and the same closing quantity and cost.
  Outside that class (capital events, where the cost pre-pass must follow the splits: D5, which
  known_findings.json notes as fixed by 80905a9; several SELL lines on one day) the twin is compared on the real
  code only. The twin keeps the split line as a ratio-1 split (the property removes it: a day with no trade and
  factor 1 is transparent, `C10_factor_one_day_is_transparent`).
-/
namespace Cgt.C10
open Cgt Spec

theorem C10_split_unsplit_same_day_cancel (d : Day) (i j : Nat) (r : Rat) (hr : r ≠ 0) :
    (d.add i (.split r)).add j (.unsplit r) = d := by
  simp only [Day.add, splitFactor, hr, ne_eq, not_false_eq_true, if_true]
  have : d.r * r * (1 / r) = d.r := by grind
  cases d
  simp_all

theorem C10_factor_one_day_is_transparent (t : String) (w : Int) (pool : Option Pool) (date : Date)
    (claimed : Rat) (future : List Day) (cl : List Rat) :
    ∃ pool', dayStep t w pool { date := date } claimed future cl = .ok (pool', cl, []) ∧
      poolQ' pool' = poolQ' pool ∧ poolC' pool' = poolC' pool := by
  simp only [dayStep, buyStage, sellsStep, poolAfter]
  cases pool with
  | none => exact ⟨none, rfl, rfl, rfl⟩
  | some p =>
    refine ⟨some ⟨p.q * 1, p.c⟩, rfl, ?_, rfl⟩
    simp [poolQ']

theorem C10_cost_never_depends_on_splits (t : String) (w : Int) (ds : List Day) (pool : Option Pool)
    (legs : List Leg) (hok : daysOk ds) (hnz : buysNonzero ds) (h : runTicker t w ds = .ok (pool, legs)) :
    ∃ f : Day → Rat, legCost legs + poolC' pool = totalDayCost (C02.setOffsets f ds) :=
  have ⟨_, _, h⟩ := C03.C03_main_pass_conserves t w ds pool legs hok hnz h
  ⟨_, h⟩

theorem C10_closing_quantity_only_rescaled (t : String) (w : Int) (ds : List Day) (pool : Option Pool)
    (legs : List Leg) (hok : daysOk ds) (h : runTicker t w ds = .ok (pool, legs)) :
    poolQ' pool = C02.rescaledNet ds :=
  (C02.ticker_conserves t w ds pool legs hok h).2.1

theorem C10_proceeds_never_depend_on_splits (t : String) (w : Int) (d : Day) (st : MState) (s : Trade)
    (future : List Day) (cl : List Rat) (st' : MState) (cl' : List Rat) (legs : List Leg)
    (hr : 0 < d.r) (hpos : ratiosPos future) (ha : 0 ≤ st.avail) (hp : 0 ≤ st.poolQ)
    (hs : 0 < s.q) (hc : claimsOk future cl)
    (h : sellStep t w d st s future cl = .ok (st', cl', legs)) :
    legGross legs = s.q * s.p ∧ legNet legs = s.q * s.p - s.f ∧
      legGain legs = legNet legs - legCost legs :=
  C04.C04_sell_proceeds t w d st s future cl st' cl' legs hr hpos ha hp hs hc h

def twinLine (t : String) (D : Int) (ρ : Rat) (x : Tx) : Tx := if x.ticker = t then twinTx D ρ x else x

theorem twinLine_ticker (t : String) (D : Int) (ρ : Rat) (x : Tx) : (twinLine t D ρ x).ticker = x.ticker := by
  unfold twinLine; split <;> rfl
theorem twinLine_date (t : String) (D : Int) (ρ : Rat) (x : Tx) : (twinLine t D ρ x).date = x.date := by
  unfold twinLine; split <;> rfl

/-- `table t` filters on `t` first, and on `t`'s lines `twinLine t` is `twinTx` -/
theorem table_twinLine (t : String) (D : Int) (ρ : Rat) (l tl : List Tx) :
    table t (l.map (twinLine t D ρ) ++ tl) = table t (l.map (twinTx D ρ) ++ tl) := by
  have h : ∀ x ∈ l.filter ((fun x : Tx => decide (x.ticker = t)) ∘ twinTx D ρ), twinLine t D ρ x = twinTx D ρ x :=
    fun x hx => if_pos (of_decide_eq_true (List.mem_filter.mp hx).2)
  unfold table
  rw [List.filter_append, List.filter_append, List.filter_map, List.filter_map,
    show ((fun x => decide (x.ticker = t)) ∘ twinLine t D ρ) = (fun x : Tx => decide (x.ticker = t)) ∘ twinTx D ρ from
      funext fun x => congrArg (fun a => decide (a = t)) (twinLine_ticker t D ρ x),
    List.map_congr_left h]

def legMoneyM (l : Leg) : Rule × Rat × Option Date := (l.rule, l.cost, l.acq)

/-- `(·.2.2.2.2)`: `dispMoney`'s last component, the legs -/
theorem legs_money (ds : List SDisposal) :
    ds.flatMap (fun d => d.legs.map legMoney) = (ds.map dispMoney).flatMap (·.2.2.2.2) :=
  (List.flatMap_map dispMoney (·.2.2.2.2) ds).symm

theorem twinOp_ok (early : Bool) (ρ : Rat) (hρ : 0 < ρ) (op : Op) (h : opOk op) : opOk (twinOp early ρ op) := by
  cases early with
  | false => cases op <;> simpa [twinOp] using h
  | true =>
    cases op <;> simp only [twinOp, if_true] <;> try exact h
    · exact ⟨Rat.mul_pos h.1 hρ, rat_div_nonneg h.2.1 hρ, h.2.2⟩
    · exact ⟨Rat.mul_pos h.1 hρ, rat_div_nonneg h.2.1 hρ, h.2.2⟩

theorem twinLine_ok (t : String) (D : Int) (ρ : Rat) (hρ : 0 < ρ) (x : Tx) (h : TxOk x) : TxOk (twinLine t D ρ x) := by
  unfold twinLine
  split
  · exact twinOp_ok _ ρ hρ x.op h
  · exact h

theorem twinOp_kind (early : Bool) (ρ : Rat) (op : Op) :
    (twinOp early ρ op).isSell = op.isSell ∧ (twinOp early ρ op).isEvent = op.isEvent := by
  cases op <;> cases early <;> exact ⟨rfl, rfl⟩

theorem twinLine_isSell (t : String) (D : Int) (ρ : Rat) (x : Tx) : (twinLine t D ρ x).op.isSell = x.op.isSell := by
  unfold twinLine
  split
  · exact (twinOp_kind _ ρ x.op).1
  · rfl

theorem twinLine_isEvent (t : String) (D : Int) (ρ : Rat) (x : Tx) : (twinLine t D ρ x).op.isEvent = x.op.isEvent := by
  unfold twinLine
  split
  · exact (twinOp_kind _ ρ x.op).2
  · rfl

theorem sellOrds_map_twinLine (t t' : String) (D : Int) (ρ : Rat) :
    ∀ zs : List Tx, sellOrds t' (zs.map (twinLine t D ρ)) = sellOrds t' zs
  | [] => rfl
  | z :: zs => by
    rw [List.map_cons, sellOrds_cons, sellOrds_cons, sellOrds_map_twinLine t t' D ρ zs]
    simp only [so, twinLine_ticker, twinLine_isSell, Tx.ord, twinLine_date]

/-- `identify_twin` rewrites every line of the ledger (`twinTx`), the twin ledger here only `t`'s (`twinLine`);
    `table_twinLine` reconciles the two. The split line stands last; any other position by `C06_ledger_perm` -/
theorem C10_ledger_twin (t : String) (D : Date) (ρ : Rat) (hρ : 0 < ρ) (l0 : List Tx)
    (hw : WellFormed (l0 ++ [⟨D, t, .split ρ⟩])) (hd : Spec.DatesOk (l0 ++ [⟨D, t, .split ρ⟩]))
    (hne : noEventLines t (l0 ++ [⟨D, t, .split ρ⟩])) (hone : oneSellPerDay t (l0 ++ [⟨D, t, .split ρ⟩]))
    (rs rs' : List TickerResult)
    (h : run bnbWindowDays (l0 ++ [⟨D, t, .split ρ⟩]) = .ok rs)
    (h' : run bnbWindowDays (l0.map (twinLine t D.ord ρ) ++ [⟨D, t, .split 1⟩]) = .ok rs') :
    ∀ r ∈ rs, ∀ r' ∈ rs', r.ticker = t → r'.ticker = t →
      r'.legs.map legMoneyM = r.legs.map legMoneyM ∧ poolQ' r'.pool = poolQ' r.pool ∧ poolC' r'.pool = poolC' r.pool := by
  intro r hr r' hr' ht ht'
  have hw' : WellFormed (l0.map (twinLine t D.ord ρ) ++ [⟨D, t, .split 1⟩]) :=
    List.forall_mem_append.mpr ⟨List.forall_mem_map.mpr fun y hy =>
      twinLine_ok t D.ord ρ hρ y (hw y (List.mem_append_left _ hy)), List.forall_mem_singleton.mpr (show (0 : Rat) < 1 by decide)⟩
  have hd' : Spec.DatesOk (l0.map (twinLine t D.ord ρ) ++ [⟨D, t, .split 1⟩]) :=
    List.forall_mem_append.mpr ⟨List.forall_mem_map.mpr fun y hy =>
      twinLine_date t D.ord ρ y ▸ hd y (List.mem_append_left _ hy),
      List.forall_mem_singleton.mpr (hd ⟨D, t, .split ρ⟩ (List.mem_append_right _ (List.mem_singleton_self _)))⟩
  have hne' : noEventLines t (l0.map (twinLine t D.ord ρ) ++ [⟨D, t, .split 1⟩]) :=
    List.forall_mem_append.mpr ⟨List.forall_mem_map.mpr fun y hy hyt =>
      twinLine_isEvent t D.ord ρ y ▸ hne y (List.mem_append_left _ hy) (twinLine_ticker t D.ord ρ y ▸ hyt),
      List.forall_mem_singleton.mpr fun _ => rfl⟩
  have hone' : oneSellPerDay t (l0.map (twinLine t D.ord ρ) ++ [⟨D, t, .split 1⟩]) := by
    unfold oneSellPerDay at hone ⊢
    rw [sellOrds_append, sellOrds_map_twinLine]
    rw [sellOrds_append] at hone
    exact hone
  obtain ⟨m1, m2, m3⟩ := identify_twin bnbWindowDays t D ρ hρ l0
  refine C01.ledger_congr (fun v => (v.1, v.2.2.1, v.2.2.2)) t _ _ hw hd hne hone hw' hd' hne' hone' ?_
    rs rs' h h' r hr r' hr' ht ht'
  rw [identify_of_table (table_twinLine t D.ord ρ l0 [⟨D, t, .split 1⟩])]
  exact ⟨(legs_money _).trans ((congrArg _ m1).trans (legs_money _).symm), m2, m3⟩

-- non-vacuity: a history with a 30-day match before a 2-for-1 split meets the three decidable hypotheses
-- (`hw`, `hne`, `hone`), and its twin's operations are as expected; valid dates and the two acceptances are
-- not checked here (see `C01.exRaw`)
def exL0 : List Tx :=
  [ ⟨⟨2024, 1, 1⟩, "A", .buy 100 4 1⟩, ⟨⟨2024, 2, 1⟩, "A", .sell 40 6 0⟩, ⟨⟨2024, 2, 10⟩, "A", .buy 10 5 1⟩,
    ⟨⟨2024, 4, 1⟩, "A", .sell 20 3 0⟩, ⟨⟨2024, 2, 10⟩, "B", .buy 5 2 0⟩ ]
example : WellFormed (exL0 ++ [⟨⟨2024, 3, 1⟩, "A", .split 2⟩]) ∧ noEventLines "A" (exL0 ++ [⟨⟨2024, 3, 1⟩, "A", .split 2⟩]) ∧
    oneSellPerDay "A" (exL0 ++ [⟨⟨2024, 3, 1⟩, "A", .split 2⟩]) ∧
    (exL0.map (twinLine "A" (⟨2024, 3, 1⟩ : Date).ord 2)).map (·.op) =
      [.buy 200 2 1, .sell 80 3 0, .buy 20 (5/2) 1, .sell 20 3 0, .buy 5 2 0] := by decide +kernel

end Cgt.C10
