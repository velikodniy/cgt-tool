import CgtModel.Lemmas.Report
import CgtModel.Lemmas.Calendar
/-! # C07 — disposals land in the right UK tax year; a year report is the all-years slice

Statement (properties.jsonl): every disposal dated from 6 April Y to 5 April Y+1 inclusive is reported
in tax year Y/Y+1 and in no other, for every Y from 1900 to 2100, and tax years are listed in
ascending order. A report restricted to one year contains exactly that year's disposals, legs and
totals as they appear in the all-years report, computed from the full history, while holdings always
reflect the full history.

The constants (6 April, 1900, 2100, the MCP server's own month/day test) are the ones
`tools/extract.py` reads from the sources on every run; the theorems below are stated over them and
re-checked against them.

Reach: the tax-year theorems are about `taxYearOf` on any date. The slice theorems (`oneYear_eq`,
`C07_filter_is_slice`, `C07_empty_year`) are about the two report builders `oneYear` and `allYears` on
an arbitrary disposal list `ds` with `hd : ∀ d ∈ ds, d.date.ok`, not about `calculate`; no theorem says
that the disposals `calculate` hands to the builders have valid dates. Only
`C07_holdings_full_history` is at the level of `calculate`.
-/
namespace Cgt.C07
open Cgt

/-- the constants the property was written against (fails to compile if the code's differ) -/
theorem constants_pinned :
    taxYearStartMonth = 4 ∧ taxYearStartDay = 6 ∧ taxYearMin = 1900 ∧ taxYearMax = 2100 ∧
    mcpYearMonth = 4 ∧ mcpYearMonth2 = 4 ∧ mcpYearDay = 6 := by decide

/-- **6 April Y … 5 April Y+1 ⇔ tax year Y**, for every Y in 1900..2100 and every triple of integers
    `t` (the comparison is that of (year, month, day); no calendar is involved) -/
theorem C07_taxYear_iff (t : Date) (Y : Int) (hY : 1900 ≤ Y ∧ Y ≤ 2100) :
    taxYearOf t = .ok Y ↔ (Date.le ⟨Y, 4, 6⟩ t ∧ Date.le t ⟨Y + 1, 4, 5⟩) := by
  rw [taxYearOf_ok, and_iff_left (show taxYearMin ≤ Y ∧ Y ≤ taxYearMax from hY)]
  exact taxYearStart_eq_iff t Y

/-- with `C07_taxYear_iff`: a date outside 6 April 1900 … 5 April 2101 has no tax year (it is an error, not
    another year) -/
theorem C07_out_of_range (t : Date) (Y : Int) (h : taxYearOf t = .ok Y) : 1900 ≤ Y ∧ Y ≤ 2100 :=
  (taxYearOf_ok.mp h).2

/-- no date lies in two tax years: `taxYearOf` is a function. That the periods of two years do not
    overlap is `C07_taxYear_iff` -/
theorem C07_year_unique (t : Date) (Y Y' : Int) (h : taxYearOf t = .ok Y) (h' : taxYearOf t = .ok Y') :
    Y = Y' := Except.ok.inj (h.symm.trans h')

/-- the MCP server's own month/day test -/
def mcpYear (t : Date) : Int :=
  if t.m < mcpYearMonth ∨ (t.m = mcpYearMonth2 ∧ t.d < mcpYearDay) then t.y - 1 else t.y

/-- by construction: `mcpYear` transcribes the server's test over its own three extracted constants,
    and these have the calculator's values (`constants_pinned`) -/
theorem C07_mcp_year_agrees (t : Date) : mcpYear t = taxYearStart t := rfl

theorem april_ok (Y d : Int) (hY : 1 ≤ Y) (hd : 1 ≤ d ∧ d ≤ 30) : (⟨Y, 4, d⟩ : Date).ok := by
  unfold Date.ok; simp only; omega

/-- the `[6 April Y, 5 April Y+1]` ordinal filter of the single-year report selects exactly the dates
    whose tax year is Y -/
theorem C07_range_filter_agrees (t : Date) (ht : t.ok) (Y : Int) (hY : 1900 ≤ Y ∧ Y ≤ 2100) :
    ((⟨Y, taxYearStartMonth, taxYearStartDay⟩ : Date).ord ≤ t.ord ∧
      t.ord ≤ (⟨Y + 1, taxYearStartMonth, taxYearStartDay - 1⟩ : Date).ord) ↔ taxYearOf t = .ok Y := by
  rw [C07_taxYear_iff t Y hY]
  exact and_congr (ord_le_iff _ _ (april_ok Y 6 (by omega) (by omega)) ht)
    (ord_le_iff _ _ ht (april_ok (Y + 1) 5 (by omega) (by omega)))

def StrictAsc : List Int → Prop
  | [] => True
  | [_] => True
  | a :: b :: rest => a < b ∧ StrictAsc (b :: rest)

theorem strictAsc_cons {a : Int} {l : List Int} :
    StrictAsc (a :: l) ↔ (∀ b ∈ l.head?, a < b) ∧ StrictAsc l := by
  cases l <;> simp [StrictAsc]

theorem head_insertSorted (y : Int) (l : List Int) :
    ∀ b ∈ (insertSorted y l).head?, b = y ∨ b ∈ l.head? := by
  cases l with
  | nil => simp [insertSorted]
  | cons a as =>
    simp only [insertSorted]
    split <;> (try split) <;> simp

theorem insertSorted_asc (y : Int) : ∀ l, StrictAsc l → StrictAsc (insertSorted y l) := by
  intro l
  induction l with
  | nil => intro _; trivial
  | cons a as ih =>
    intro h
    obtain ⟨ha, has⟩ := strictAsc_cons.1 h
    simp only [insertSorted]
    split
    · exact ⟨by assumption, h⟩
    · split
      · exact h
      · -- `a < y`, and what now follows `a` begins with `y` or with what followed `a` before
        refine strictAsc_cons.2 ⟨fun b hb => ?_, ih has⟩
        rcases head_insertSorted y as b hb with rfl | hb
        · omega
        · exact ha b hb

theorem sortDedup_asc (ys : List Int) : StrictAsc (sortDedup ys) := by
  induction ys with
  | nil => simp [sortDedup, StrictAsc]
  | cons y ys ih => simp only [sortDedup, List.foldr_cons]; exact insertSorted_asc y _ ih

theorem C07_years_ascending (ex : List (Int × Rat)) (l : List Tx) (ds : List Disposal)
    (out : List YearSummary) (h : allYears ex l ds = .ok out) : StrictAsc (out.map (·.year)) := by
  obtain ⟨ys, _, h⟩ := allYears_ok.mp h
  rw [mapExcept_map (fun _ _ => mkSummary_year) h]
  exact sortDedup_asc ys

/-- the right side is the expression the all-years report uses for Y (`hd`: see the head) -/
theorem oneYear_eq (ex : List (Int × Rat)) (l : List Tx) (ds : List Disposal) (Y : Int)
    (hY : 1900 ≤ Y ∧ Y ≤ 2100) (hd : ∀ d ∈ ds, d.date.ok) :
    oneYear ex l ds Y = mkSummary ex l Y (ds.filter (fun d => inYear Y d.date)) := by
  have hty : taxYearOf ⟨Y, taxYearStartMonth, taxYearStartDay⟩ = .ok Y := taxYearOf_ok.mpr ⟨rfl, hY⟩
  unfold oneYear
  rw [if_neg (by omega), if_neg (by omega)]
  simp only [hty]
  congr 1
  apply List.filter_congr
  intro d hdm
  rw [Bool.eq_iff_iff, decide_eq_true_iff, inYear_iff]
  exact C07_range_filter_agrees d.date (hd d hdm) Y hY

/-- **the year filter returns exactly the all-years report's entry for that year** -/
theorem C07_filter_is_slice (ex : List (Int × Rat)) (l : List Tx) (ds : List Disposal)
    (hd : ∀ d ∈ ds, d.date.ok) (out : List YearSummary) (h : allYears ex l ds = .ok out) :
    ∀ s ∈ out, oneYear ex l ds s.year = .ok s := by
  intro s hs
  obtain ⟨ys, hys, h⟩ := allYears_ok.mp h
  obtain ⟨y, hy, hmk⟩ := mapExcept_mem h hs
  rw [mem_sortDedup] at hy
  obtain ⟨d, hdm, hdy⟩ := mapExcept_mem (yearsOf_eq ds ▸ hys) hy
  rw [mkSummary_year hmk, oneYear_eq ex l ds y (C07_out_of_range _ y hdy) hd]
  exact hmk

/-- a year without disposals: the filtered report is that year's empty summary (still an error if the
    year has no configured exemption) -/
theorem C07_empty_year (ex : List (Int × Rat)) (l : List Tx) (ds : List Disposal) (Y : Int)
    (hY : 1900 ≤ Y ∧ Y ≤ 2100) (hd : ∀ d ∈ ds, d.date.ok)
    (hnone : ∀ d ∈ ds, taxYearOf d.date ≠ .ok Y) :
    oneYear ex l ds Y = mkSummary ex l Y [] := by
  rw [oneYear_eq ex l ds Y hY hd]
  congr 1
  exact List.filter_eq_nil_iff.mpr fun d hdm => mt inYear_iff.mp (hnone d hdm)

/-- holdings never depend on the year filter: by construction, `reportFrom` takes them from the
    matcher's result before it looks at the year -/
theorem C07_holdings_full_history (w : Int) (dp : Nat) (ex : List (Int × Rat)) (y1 y2 : Option Int)
    (l : List Tx) (r1 r2 : Report) (h1 : calculate w dp ex y1 l = .ok r1)
    (h2 : calculate w dp ex y2 l = .ok r2) : r1.holdings = r2.holdings := by
  obtain ⟨rs, hr, h1⟩ := calculate_ok.mp h1
  obtain ⟨rs', hr', h2⟩ := calculate_ok.mp h2
  cases hr.symm.trans hr'
  rw [reportFrom_holdings h1, reportFrom_holdings h2]

example : taxYearOf ⟨2024, 4, 5⟩ = .ok 2023 := by rfl
example : taxYearOf ⟨2024, 4, 6⟩ = .ok 2024 := by rfl
example : (⟨2024, 2, 29⟩ : Date).ok := by unfold Date.ok leapP; decide
example : (⟨2024, 2, 29⟩ : Date).ord = 738945 := by decide

end Cgt.C07
