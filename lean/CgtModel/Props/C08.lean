import CgtModel.Props.Formulas
/-! # C08 — foreign amounts convert at the HMRC rate of their own month, or the run fails

Proved for the model:
* `C08_gbp_unchanged`, `C08_own_currency_own_month`, `C08_depends_only_on_own_key` — a GBP amount is
  used as it is; any other amount is divided by the rate stored under (its own currency, the
  transaction's year, the transaction's month) and nothing else is looked at;
* `C08_missing_rate_fails`, `C08_zero_needs_no_rate` — a needed rate that is absent fails the conversion
  naming exactly that currency, year and month (never GBP, never another month);
* `C08_first_missing_field_named`, `C08_second_field_named_when_first_converts` — for a BUY line the
  error names the first field (price before fees) whose rate is missing. Failure propagation is proved
  for one amount and for BUY lines; above them (`toGbpTx`, `toGbpAll`) the only theorem is the twin;
* `C08_twin` — the converted list is the same for a ledger and for the same ledger with every amount
  replaced by its GBP value (`toGbpAll_pre`, failures included). That the report is a function of the
  converted list is a fact about calculator.rs, not a theorem;
* `C08_override_exactly_that_key`, `C08_override_leaves_other_keys` — after loading a folder file, a key
  the file contains has the rate of one of the file's rows for it (that it is the last such row is
  `Cache.get_extend`, Lemmas/Fx.lean), and every other key keeps what it had before;
* `C08_mislabelled_file_rejected`, `C08_nonpositive_rate_rejected`, `C08_bad_name_rejected`,
  `C08_any_bad_file_fails_the_load` — a bad file is an error of the whole load.
The loader theorems stop at one `Cache.extend` and at `loadFiles` on a list as given: nothing is proved
about `loadCache` or `sortByMtime`, so "the file modified later wins" has no statement.
XML decoding, file-name parsing and modification-time reading are not modelled: the model takes the
decoded (expected period, period, rows, mtime); the check feeds real XML text and real file names to the
real loader and compares the resulting cache with the model's.

Props.Formulas brings Lemmas/Fx (the equations of `toGbpAmt`, `Cache.get` and `checkRows`), which the
proofs below use; none uses a `Formulas` theorem: tools/audit.py reaches `Formulas.toGbp_is_source` and
`Formulas.toGbp_guards_are_source`, which obligations.json lists under C08, through this import.
-/
namespace Cgt.C08
open Cgt

theorem C08_gbp_unchanged (c : Cache) (d : Date) (x : Rat) : toGbpAmt c d ⟨x, "GBP"⟩ = .ok x :=
  toGbpAmt_gbp c d rfl

theorem C08_own_currency_own_month (c : Cache) (d : Date) (a : CAmt) (h : a.cur ≠ "GBP") (r : Rat)
    (hr : c.get (a.cur, d.y, d.m) = some r) : toGbpAmt c d a = .ok (a.amt / r) := by
  by_cases hz : a.amt = 0
  · rw [toGbpAmt_zero c d hz, hz, Rat.div_def, Rat.zero_mul]
  · exact toGbpAmt_rate c d h hz hr

theorem C08_missing_rate_fails (c : Cache) (d : Date) (a : CAmt) (h : a.cur ≠ "GBP") (hz : a.amt ≠ 0)
    (hr : c.get (a.cur, d.y, d.m) = none) : toGbpAmt c d a = .error ⟨a.cur, d.y, d.m⟩ :=
  toGbpAmt_no_rate c d h hz hr

theorem C08_zero_needs_no_rate (c : Cache) (d : Date) (cur : String) : toGbpAmt c d ⟨0, cur⟩ = .ok 0 :=
  toGbpAmt_zero c d rfl

theorem C08_depends_only_on_own_key (c c' : Cache) (d : Date) (a : CAmt)
    (h : c.get (a.cur, d.y, d.m) = c'.get (a.cur, d.y, d.m)) : toGbpAmt c d a = toGbpAmt c' d a := by
  unfold toGbpAmt; rw [h]

theorem C08_first_missing_field_named (c : Cache) (d : Date) (q : Rat) (p f : CAmt) (e : FxErr)
    (hp : toGbpAmt c d p = .error e) : toGbpOp c d (.buy q p f) = .error e := by
  simp only [toGbpOp, hp, pair, Except.map]

theorem C08_second_field_named_when_first_converts (c : Cache) (d : Date) (q : Rat) (p f : CAmt) (x : Rat)
    (e : FxErr) (hp : toGbpAmt c d p = .ok x) (hf : toGbpAmt c d f = .error e) :
    toGbpOp c d (.buy q p f) = .error e := by
  simp only [toGbpOp, hp, hf, pair, Except.map]

def preAmt (c : Cache) (d : Date) (a : CAmt) : CAmt :=
  match toGbpAmt c d a with
  | .ok x => ⟨x, "GBP"⟩
  | .error _ => a

def preOp (c : Cache) (d : Date) : COp → COp
  | .buy q p f => .buy q (preAmt c d p) (preAmt c d f)
  | .sell q p f => .sell q (preAmt c d p) (preAmt c d f)
  | .dividend v t => .dividend (preAmt c d v) (preAmt c d t)
  | .accumulation q v t => .accumulation q (preAmt c d v) (preAmt c d t)
  | .capreturn q v f => .capreturn q (preAmt c d v) (preAmt c d f)
  | .split r => .split r
  | .unsplit r => .unsplit r

def preTx (c : Cache) (t : CTx) : CTx := { t with op := preOp c t.date t.op }

theorem toGbpAmt_pre (c : Cache) (d : Date) (a : CAmt) : toGbpAmt [] d (preAmt c d a) = toGbpAmt c d a := by
  unfold preAmt
  cases h : toGbpAmt c d a with
  | ok x => exact toGbpAmt_gbp [] d rfl
  | error e =>
    by_cases hc : a.cur = "GBP"
    · rw [toGbpAmt_gbp c d hc] at h; cases h
    by_cases hz : a.amt = 0
    · rw [toGbpAmt_zero c d hz] at h; cases h
    cases hr : c.get (a.cur, d.y, d.m) with
    | some r => rw [toGbpAmt_rate c d hc hz hr] at h; cases h
    | none => rw [← h, toGbpAmt_no_rate c d hc hz hr]; exact toGbpAmt_no_rate [] d hc hz rfl

theorem toGbpOp_pre (c : Cache) (d : Date) (op : COp) : toGbpOp [] d (preOp c d op) = toGbpOp c d op := by
  cases op <;> simp only [toGbpOp, preOp, toGbpAmt_pre]

theorem toGbpAll_pre (c : Cache) (l : List CTx) : toGbpAll [] (l.map (preTx c)) = toGbpAll c l := by
  induction l with
  | nil => rfl
  | cons t ts ih => simp only [List.map_cons, toGbpAll, toGbpTx, preTx, toGbpOp_pre, ih]

/-- **twin**: a ledger in foreign currency converts to the same GBP ledger as the same ledger
    pre-converted at those rates (which then needs no rates at all) -/
theorem C08_twin (c : Cache) : ∀ (l : List CTx) (out : List Tx), toGbpAll c l = .ok out →
    toGbpAll [] (l.map (preTx c)) = .ok out :=
  fun l _ h => (toGbpAll_pre c l).trans h

theorem C08_override_leaves_other_keys (c : Cache) (entries : List (RateKey × Rat)) (k : RateKey)
    (h : ∀ e ∈ entries, e.1 ≠ k) : (c.extend entries).get k = c.get k := by
  rw [Cache.get_extend, Cache.get_eq_none.mpr fun e he => h e (List.mem_reverse.mp he)]
  rfl

/-- the rate is that of one of the file's rows for the key; that it is the last such row is `Cache.get_extend` -/
theorem C08_override_exactly_that_key (c : Cache) (entries : List (RateKey × Rat)) (k : RateKey)
    (h : ∃ e ∈ entries, e.1 = k) : ∃ r, (c.extend entries).get k = some r ∧ (k, r) ∈ entries := by
  cases hg : Cache.get entries.reverse k with
  | none =>
    obtain ⟨e, he, hk⟩ := h
    exact absurd hk (Cache.get_eq_none.mp hg e (List.mem_reverse.mpr he))
  | some r =>
    exact ⟨r, by rw [Cache.get_extend, hg]; rfl, List.mem_reverse.mp (Cache.mem_of_get hg)⟩

theorem C08_mislabelled_file_rejected (f : RateFileM) (e p : Int × Int) (he : f.expected = some e)
    (hp : f.period = some p) (hne : p ≠ e) : loadFile f = .error .periodMismatch := by
  simp [loadFile, he, hp, hne]

theorem C08_bad_name_rejected (f : RateFileM) (he : f.expected = none) :
    loadFile f = .error .invalidFileName := by simp [loadFile, he]

theorem C08_nonpositive_rate_rejected (f : RateFileM) (e : Int × Int) (he : f.expected = some e)
    (hp : f.period = some e) (h : ∃ r ∈ f.rows, r.2 ≤ 0) : ∃ code, loadFile f = .error (.nonPositiveRate code) := by
  obtain ⟨r, hr, h0⟩ := h
  cases hx : f.rows.find? (fun r => decide (r.2 ≤ 0)) with
  | none => exact absurd h0 (by simpa using List.find?_eq_none.mp hx r hr)
  | some x => exact ⟨x.1, by simp [loadFile, he, hp, checkRows_eq, hx]⟩

theorem C08_any_bad_file_fails_the_load (c : Cache) : ∀ (fs : List RateFileM),
    (∃ f ∈ fs, ∃ e, loadFile f = .error e) → ∃ e, loadFiles c fs = .error e := by
  intro fs
  induction fs generalizing c with
  | nil => intro ⟨f, hf, _⟩; simp at hf
  | cons g gs ih =>
    intro ⟨f, hf, e, he⟩
    simp only [loadFiles]
    cases hg : loadFile g with
    | error e' => exact ⟨e', rfl⟩
    | ok entries =>
      simp only
      simp only [List.mem_cons] at hf
      rcases hf with rfl | hf
      · rw [he] at hg; cases hg
      · exact ih _ ⟨f, hf, e, he⟩

-- `Except` has no `DecidableEq`: the two examples below are decided on these projections
def okVal : Except FxErr Rat → Option Rat | .ok x => some x | .error _ => none
def errVal : Except FxErr Rat → Option FxErr | .ok _ => none | .error e => some e
example : okVal (toGbpAmt [(("USD", 2024, 6), (5/4 : Rat))] ⟨2024, 6, 15⟩ ⟨100, "USD"⟩) = some 80 := by decide +kernel
example : errVal (toGbpAmt [(("USD", 2024, 6), (5/4 : Rat))] ⟨2024, 7, 1⟩ ⟨100, "USD"⟩) = some ⟨"USD", 2024, 7⟩ := by
  decide +kernel

end Cgt.C08
