import CgtModel.Schwab
/-! # C18 — Schwab conversion keeps every CGT-relevant row and emits valid DSL

Model: the converter after JSON decoding (rows → emitted items, skipped count, warnings). What becomes
of a row is proved stage by stage — one `step`, one `removeFirst`, the final sort — not composed
through `convert`:
* a Buy/Sell row becomes exactly one item with the row's date, symbol, quantity and price
  (`C18_buy_row_becomes_one_item`, `C18_sell_row_becomes_one_item`) and its fee when that is positive
  (`C18_fee_never_negative`: absent, zero or negative fees give no FEES clause);
* a Cancel Sell removes exactly one identical sell and leaves the rest in order, or removes nothing
  and warns (`C18_cancel_removes_exactly_one`, `C18_unmatched_cancel_warns`,
  `C18_cancel_never_touches_buys_or_dividends`);
* every other row is counted as skipped, with a comment and a warning where it could have mattered
  (`C18_other_rows_counted`; `C18_withholding_is_attached_or_reported`,
  `C18_blank_dividend_is_reported`: the repair of D16 for those rows);
* the output is these items sorted by date, comments first (`C18_output_sorted`,
  `C18_sort_keeps_everything`).
Known finding D16, what is left of it: a withholding row *without a symbol* leaves no trace
(`C18_symbolless_withholding_vanishes`); an existing test of the repository pins that behaviour.
Checked on the real converter for generated exports: line multiset, dividend/tax totals, skipped
count, valid DSL in chronological order whatever the free text contains, row-order independence and
date-disjoint chunking through the real report.
-/
namespace Cgt.C18
open Cgt Cgt.Schwab

theorem C18_buy_row_becomes_one_item (all : List Row) (s : St) (d : Int) (sym : String) (q p : Rat) (f : Option Rat) :
    (step all s (.buy d sym q p f)).items = s.items ++ [.buy d sym q p (feeOf f)] ∧
    (step all s (.buy d sym q p f)).skipped = s.skipped := ⟨rfl, rfl⟩

theorem C18_sell_row_becomes_one_item (all : List Row) (s : St) (d : Int) (sym : String) (q p : Rat) (f : Option Rat) :
    (step all s (.sell d sym q p f)).items = s.items ++ [.sell d sym q p (feeOf f)] := rfl

theorem C18_fee_never_negative (f : Option Rat) : 0 ≤ feeOf f ∧ (∀ x, f = some x → 0 < x → feeOf f = x) := by
  unfold feeOf
  constructor
  · split <;> grind
  · intro x hx hpos; subst hx; simp [hpos]

theorem removeFirst_eq (c : Int × String × Rat × Rat) : ∀ items : List Item,
    removeFirst c items =
      if items.any (matchesCancel c) then some (items.eraseP (matchesCancel c)) else none := by
  intro items
  induction items with
  | nil => rfl
  | cons x xs ih =>
    cases hm : matchesCancel c x
    · simp only [removeFirst, hm, Bool.false_eq_true, if_false, ih, List.any_cons, Bool.false_or, List.eraseP_cons,
        cond_false]
      split <;> rfl
    · simp only [removeFirst, hm, if_true, List.any_cons, Bool.true_or, List.eraseP_cons, cond_true]

theorem C18_cancel_removes_exactly_one (c : Int × String × Rat × Rat) : ∀ (items items' : List Item),
    removeFirst c items = some items' →
      ∃ pre x post, items = pre ++ x :: post ∧ items' = pre ++ post ∧ matchesCancel c x = true ∧
        ∀ y ∈ pre, matchesCancel c y = false := by
  intro items items' h
  rw [removeFirst_eq] at h
  split at h
  · rename_i hany
    obtain ⟨x, hx, hm⟩ := List.any_eq_true.mp hany
    obtain ⟨a, l₁, l₂, h1, h2, h3, h4⟩ := List.exists_of_eraseP hx hm
    exact ⟨l₁, a, l₂, h3, by rw [← Option.some.inj h, h4], h2, fun y hy => by simpa using h1 y hy⟩
  · cases h

theorem C18_unmatched_cancel_warns (c : Int × String × Rat × Rat) (cs : List (Int × String × Rat × Rat))
    (items : List Item) (w : Nat) (h : removeFirst c items = none) :
    applyCancels (c :: cs) (items, w) = applyCancels cs (items, w + 1) := by
  simp [applyCancels, h]

theorem C18_cancel_never_touches_buys_or_dividends (c : Int × String × Rat × Rat) (x : Item)
    (h : matchesCancel c x = true) : ∃ d sym q p f, x = .sell d sym q p f := by
  cases x <;> simp [matchesCancel] at h
  exact ⟨_, _, _, _, _, rfl⟩

theorem keyLe_total (a b : Item) : (keyLe a b || keyLe b a) = true := by
  unfold keyLe
  cases ha : a.key <;> cases hb : b.key <;> simp
  omega

theorem keyLe_trans (a b c : Item) (h1 : keyLe a b = true) (h2 : keyLe b c = true) : keyLe a c = true := by
  unfold keyLe at *
  cases ha : a.key <;> cases hb : b.key <;> cases hc : c.key <;> simp_all
  omega

theorem C18_output_sorted (rows : List Row) : (convert rows).items.Pairwise (fun a b => keyLe a b = true) :=
  List.pairwise_mergeSort keyLe_trans keyLe_total _

/-- core's `List.mergeSort_perm` at `keyLe`, for any list of items (`convert` is not mentioned) -/
theorem C18_sort_keeps_everything (items : List Item) : (items.mergeSort keyLe).Perm items :=
  List.mergeSort_perm items _

theorem C18_other_rows_counted (all : List Row) (s : St) :
    (step all s .nonCgt).skipped = s.skipped + 1 ∧
    (step all s .unknown).skipped = s.skipped + 1 ∧ (step all s .unknown).warnings = s.warnings + 1 ∧
    (step all s .unknown).items = s.items ++ [.comment] ∧
    ∀ d sym, (step all s (.split d sym)).skipped = s.skipped + 1 ∧ (step all s (.split d sym)).items = s.items ++ [.comment] :=
  ⟨rfl, rfl, rfl, rfl, fun _ _ => ⟨rfl, rfl⟩⟩

/-- in the first case the row itself changes nothing: that its amount is carried is the dividend arm of `step`
    (through `taxFor`), stated by no theorem -/
theorem C18_withholding_is_attached_or_reported (all : List Row) (s : St) (d : Int) (sym : String) (a : Option Rat) :
    (a.isSome ∧ hasDividend all d sym = true → step all s (.nra d (some sym) a) = s) ∧
    (¬ (a.isSome ∧ hasDividend all d sym = true) →
      (step all s (.nra d (some sym) a)).items = s.items ++ [.comment] ∧
      (step all s (.nra d (some sym) a)).skipped = s.skipped + 1 ∧
      (step all s (.nra d (some sym) a)).warnings = s.warnings + 1) := by
  constructor
  · intro h; simp [step, h]
  · intro h; simp [step, h]

theorem C18_blank_dividend_is_reported (all : List Row) (s : St) (d : Int) (sym : String) :
    (step all s (.dividend d sym none)).items = s.items ++ [.comment] ∧
    (step all s (.dividend d sym none)).skipped = s.skipped + 1 ∧
    (step all s (.dividend d sym none)).warnings = s.warnings + 1 := ⟨rfl, rfl, rfl⟩

theorem C18_symbolless_withholding_vanishes (all : List Row) (s : St) (d : Int) (a : Option Rat) :
    step all s (.nra d none a) = s := rfl

example : applyCancels [(5, "A", 1, 2)] ([.sell 5 "A" 1 2 0, .sell 5 "A" 1 2 0, .buy 3 "A" 1 1 0], 0)
    = ([.sell 5 "A" 1 2 0, .buy 3 "A" 1 1 0], 0) := by decide +kernel

end Cgt.C18
