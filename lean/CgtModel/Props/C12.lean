import CgtModel.Lemmas.RawShape
import CgtModel.Lemmas.WellFormed
import CgtModel.Lemmas.Prepass
import CgtModel.Lemmas.Prefix
import CgtModel.Lemmas.AppendLedger
import CgtModel.Lemmas.Order
/-! # C12 — figures for earlier years do not change when later transactions are added

Statement: once every transaction up to 30 days after a disposal is present, its legs, costs and gain
are final: appending purchases, sales, splits or dividends dated more than 30 days after it leaves
them unchanged and never turns an accepted ledger into one rejected because of the earlier period
(capital returns and accumulations excluded).

The idea. For one security's day list, days that begin beyond the 30-day window of every day of the
history are invisible to the history's look-ahead and holding check, so running history ++ continuation
is: run the history; then run the continuation from the pool the history left, with no claims carried
over (`C12_prefix_stable`, from `Lemmas/Prefix.lean`). A continuation without capital returns /
accumulations leaves the pre-pass offsets of the history's purchases alone and gets none itself, so the
same holds with the pre-pass included (`C12_security_prefix_stable`). For a raw ledger `l ++ s` with every
line of `s` more than 30 days after every line of `l`, preprocessing acts on the two parts separately
(`Lemmas/AppendLedger.lean`), so a security's day list is the history's followed by the later lines' own
days: `C12_ledger_run` is the exact statement, the other `C12_ledger…` theorems are weakenings of it. For a
tax year in which no later line is dated, the year's slice of the disposal list, its totals and the
dividends are the history's (`slice_unsorted`, `C12_year_final`), and since the (date, security) order has
no ties on an accepted ledger whose dates are `Spec.DatesOk` (`Lemmas/Order.lean`) the slice is the same list
(`C12_year_exact`).

What is covered is the appended form `l ++ s`: `daysOf t (preprocess ·)` and `run` depend on line order,
and nothing here speaks of another arrangement of the same lines. The year theorems are about the year's
slice of `allDisposals`, its `totals`, `dividendsOf` and `mkSummary`; the step from there to `oneYear`,
`allYears` or `calculate` is not made.
-/
namespace Cgt.C12
open Cgt

/-- `then_ok`, `then_error`: inverting the `match` that `runDays_append` produces (the history's run, then
    the later days), for an accepted and for a refused whole -/
theorem then_ok {x : Except MErr (Option Pool × List Leg)} {legs1 legs : List Leg} {pool : Option Pool}
    (h : (match x with
      | .error e => .error e
      | .ok (pool2, legs2) => .ok (pool2, legs1 ++ legs2)) = Except.ok (ε := MErr) (pool, legs)) :
    ∃ legs2, legs = legs1 ++ legs2 ∧ x = .ok (pool, legs2) := by
  cases x with
  | error e => cases h
  | ok r =>
    cases h
    exact ⟨r.2, rfl, rfl⟩

theorem then_error {x : Except MErr (Option Pool × List Leg)} {legs1 : List Leg} {e : MErr}
    (h : (match x with
      | .error e => .error e
      | .ok (pool2, legs2) => .ok (pool2, legs1 ++ legs2)) = Except.error (α := Option Pool × List Leg) e) :
    x = .error e := by
  cases x with
  | error e' => exact h
  | ok r => cases h

theorem C12_prefix_stable (t : String) (w : Int) (ps es : List Day) (hfar : allFar w ps es) :
    runDays t w none (ps ++ es) [] =
      (match runDays t w none ps [] with
       | .error e => .error e
       | .ok (pool1, legs1) =>
         match runDays t w pool1 es [] with
         | .error e => .error e
         | .ok (pool2, legs2) => .ok (pool2, legs1 ++ legs2)) :=
  runDays_append t w es ps none [] hfar (by simp)

theorem C12_legs_are_a_prefix (t : String) (w : Int) (ps es : List Day) (hfar : allFar w ps es)
    (pool1 : Option Pool) (legs1 : List Leg) (h1 : runDays t w none ps [] = .ok (pool1, legs1))
    (pool2 : Option Pool) (legs : List Leg) (h : runDays t w none (ps ++ es) [] = .ok (pool2, legs)) :
    ∃ legs2, legs = legs1 ++ legs2 ∧ runDays t w pool1 es [] = .ok (pool2, legs2) := by
  rw [C12_prefix_stable t w ps es hfar, h1] at h
  exact then_ok h

theorem C12_rejection_comes_from_the_continuation (t : String) (w : Int) (ps es : List Day)
    (hfar : allFar w ps es) (pool1 : Option Pool) (legs1 : List Leg)
    (h1 : runDays t w none ps [] = .ok (pool1, legs1)) (e : MErr)
    (h : runDays t w none (ps ++ es) [] = .error e) : runDays t w pool1 es [] = .error e := by
  rw [C12_prefix_stable t w ps es hfar, h1] at h
  exact then_error h

/-- the extracted window constant: what turns the ledger theorems' `> bnbWindowDays` into `a.ord < b.ord`
    (`lt_of_far`) -/
theorem window_is_30 : bnbWindowDays = 30 := by decide

-- non-vacuity: a history whose last disposal is followed, 31 days later, by a repurchase
def hist : List Day :=
  [ { date := ⟨2024, 1, 1⟩, buy := some ⟨0, 100, 1, 0⟩ }, { date := ⟨2024, 2, 1⟩, sells := [⟨1, 40, 2, 0⟩] } ]
def cont : List Day := [ { date := ⟨2024, 3, 3⟩, buy := some ⟨2, 40, 3, 0⟩ } ]
example : allFar 30 hist cont := by
  intro d hd
  simp only [hist, List.mem_cons, List.not_mem_nil, or_false] at hd
  rcases hd with rfl | rfl <;> (simp only [farFrom, cont]; decide)

theorem C12_offsets_unchanged (t : String) (ps es : List Day) (hok : daysOk (ps ++ es)) (hne : noEvents es)
    (lots1 : List Lot) (h1 : prepass t [] ps = .ok lots1) :
    ∃ lots2, prepass t [] (ps ++ es) = .ok lots2 ∧ ∀ o, offsetFor o lots2 = offsetFor o lots1 := by
  have ⟨hps, hes⟩ := daysOk_append.mp hok
  have hinv := (prepass_props t ps [] lots1 lotsInv_nil hps h1).1
  obtain ⟨lots2, h2, hk⟩ := prepass_noEvents t es lots1 hinv hes hne
  refine ⟨lots2, ?_, hk⟩
  rw [prepass_append, h1]
  exact h2

/-- `h0`: days as `groupDays` builds them carry no offset yet (`daysOf_offset`) -/
theorem C12_security_prefix_stable (t : String) (w : Int) (hw : 0 ≤ w) (ps es : List Day)
    (hok : daysOk (ps ++ es)) (hne : noEvents es) (h0 : ∀ e ∈ es, e.offset = 0)
    (hfar : ∀ d ∈ ps, ∀ e ∈ es, e.ord - d.ord > w) (pool1 : Option Pool) (legs1 : List Leg)
    (h1 : runTicker t w ps = .ok (pool1, legs1)) :
    runTicker t w (ps ++ es) =
      (match runDays t w pool1 es [] with
       | .error e => .error e
       | .ok (pool2, legs2) => .ok (pool2, legs1 ++ legs2)) := by
  obtain ⟨lots1, hp1, hrun1⟩ := runTicker_ok h1
  obtain ⟨lots2, hp2, hoff⟩ := C12_offsets_unchanged t ps es hok hne lots1 hp1
  -- no lot of the history is dated like a later day, so the pre-pass leaves the later days at offset 0
  have hes : es.map (fun e => { e with offset := offsetFor e.ord lots1 }) = es := by
    refine (List.map_congr_left fun e he => ?_).trans (List.map_id _)
    have hnot : e.ord ∉ lotOrds lots1 := fun hm => by
      rw [(prepass_props t ps [] lots1 lotsInv_nil (daysOk_append.mp hok).1 hp1).2.2] at hm
      obtain ⟨d, hd, e'⟩ := mem_buyOrds hm
      have := hfar d hd e he
      omega -- needs `0 ≤ w`
    rw [offsetFor_eq_zero hnot, ← h0 e he]
    rfl
  have hwo : withOffsets t (ps ++ es) =
      .ok (C02.setOffsets (fun d => offsetFor d.ord lots1) ps ++ es) := by
    rw [withOffsets_of_prepass hp2]
    unfold C02.setOffsets
    simp only [List.map_append, hoff, hes]
  rw [runTicker_eq w hwo, C12_prefix_stable t w _ es (allFar_of_forall fun d hd e he => ?_), hrun1]
  unfold C02.setOffsets at hd
  obtain ⟨d0, hd0, rfl⟩ := List.mem_map.mp hd
  exact hfar d0 hd0 e he

theorem lt_of_far {l s : List Tx} (hfar : ∀ a ∈ l, ∀ b ∈ s, b.ord - a.ord > bnbWindowDays) :
    ∀ a ∈ l, ∀ b ∈ s, a.ord < b.ord := fun a ha b hb => by
  have := hfar a ha b hb
  have := window_is_30
  omega

/-- **C12 from the raw ledger, one security**: `l` is the history, `s` the lines added later, every one of
    them dated more than 30 days after every line of `l`, none of them a capital return or accumulation of
    security `t`. If the history alone is accepted for `t`, the extended ledger's run for `t` is the
    history's run followed by the run of the later lines' own days (numbered after the history's lines)
    from the history's closing pool: same legs for the history's disposals, and any refusal is raised by
    the later days. -/
theorem C12_ledger_run (l s : List Tx) (hw : WellFormed (l ++ s))
    (hfar : ∀ a ∈ l, ∀ b ∈ s, b.ord - a.ord > bnbWindowDays) (t : String) (hne : noEventLines t s)
    (pool1 : Option Pool) (legs1 : List Leg)
    (h1 : runTicker t bnbWindowDays (daysOf t (preprocess l)) = .ok (pool1, legs1)) :
    runTicker t bnbWindowDays (daysOf t (preprocess (l ++ s))) =
      (match runDays t bnbWindowDays pool1
          ((daysOf t (preprocess s)).map (Day.shift (preprocess l).length)) [] with
       | .error e => .error e
       | .ok (pool2, legs2) => .ok (pool2, legs1 ++ legs2)) := by
  have hok := (wellFormed_days (l ++ s) hw t).1
  rw [daysOf_preprocess_append l s (lt_of_far hfar) t] at hok ⊢
  refine C12_security_prefix_stable t _ (by decide) _ _ hok ?_ ?_ ?_ pool1 legs1 h1
  -- `Day.shift` only renumbers: `.date`, `.ord`, `.offset`, `.accs` of a shifted day are the day's own by
  -- `rfl`, which the three goals (and `C12_ledger_security_dated` below) use without saying
  · refine List.forall_mem_map.mpr fun d hd => ?_
    have := noEvents_of_raw t s hne d hd
    exact ⟨this.1, by simp [Day.shift, this.2]⟩
  · exact List.forall_mem_map.mpr (daysOf_offset t _)
  · refine fun d hd => List.forall_mem_map.mpr fun e he => ?_
    obtain ⟨a, ha, _, ea⟩ := daysOf_preprocess_date_mem t l d hd
    obtain ⟨b, hb, _, eb⟩ := daysOf_preprocess_date_mem t s e he
    show e.date.ord - d.date.ord > _
    rw [ea, eb]
    exact hfar a ha b hb

theorem C12_ledger_security_dated (l s : List Tx) (hw : WellFormed (l ++ s))
    (hfar : ∀ a ∈ l, ∀ b ∈ s, b.ord - a.ord > bnbWindowDays) (t : String) (hne : noEventLines t s)
    (pool1 : Option Pool) (legs1 : List Leg)
    (h1 : runTicker t bnbWindowDays (daysOf t (preprocess l)) = .ok (pool1, legs1)) :
    ∃ es : List Day, es.Pairwise (fun a b => a.ord < b.ord) ∧ (∀ d ∈ es, ∃ b ∈ s, d.date = b.date) ∧
      runTicker t bnbWindowDays (daysOf t (preprocess (l ++ s))) =
      (match runDays t bnbWindowDays pool1 es [] with
       | .error e => .error e
       | .ok (pool2, legs2) => .ok (pool2, legs1 ++ legs2)) :=
  ⟨(daysOf t (preprocess s)).map (Day.shift (preprocess l).length), List.pairwise_map.mpr (daysOf_strict s t),
    List.forall_mem_map.mpr fun d hd =>
      have ⟨b, hb, _, e⟩ := daysOf_preprocess_date_mem t s d hd
      ⟨b, hb, e⟩,
    C12_ledger_run l s hw hfar t hne pool1 legs1 h1⟩

theorem C12_ledger_security (l s : List Tx) (hw : WellFormed (l ++ s))
    (hfar : ∀ a ∈ l, ∀ b ∈ s, b.ord - a.ord > bnbWindowDays) (t : String) (hne : noEventLines t s)
    (pool1 : Option Pool) (legs1 : List Leg)
    (h1 : runTicker t bnbWindowDays (daysOf t (preprocess l)) = .ok (pool1, legs1)) :
    ∃ es : List Day, (∀ d ∈ es, ∃ b ∈ s, d.ord = b.ord) ∧
      runTicker t bnbWindowDays (daysOf t (preprocess (l ++ s))) =
      (match runDays t bnbWindowDays pool1 es [] with
       | .error e => .error e
       | .ok (pool2, legs2) => .ok (pool2, legs1 ++ legs2)) := by
  obtain ⟨es, _, hd, hes⟩ := C12_ledger_security_dated l s hw hfar t hne pool1 legs1 h1
  refine ⟨es, ?_, hes⟩
  intro d hdm
  obtain ⟨b, hb, e⟩ := hd d hdm
  exact ⟨b, hb, by unfold Day.ord Tx.ord; rw [e]⟩

/-- **C12 at ledger level**: if the history and the extended ledger are both accepted, then for a security
    of the history for which the later lines carry no capital return / accumulation, a result of the
    extended run with that ticker has exactly the history's legs (same order, quantities, costs, gains) as
    its first legs. (That there is such a result, and what its pool is, is in `run_tickers` and
    `C12_ledger_run`, not here.) -/
theorem C12_ledger (l s : List Tx) (hw : WellFormed (l ++ s))
    (hfar : ∀ a ∈ l, ∀ b ∈ s, b.ord - a.ord > bnbWindowDays)
    (rs1 rs : List TickerResult) (h1 : run bnbWindowDays l = .ok rs1) (h : run bnbWindowDays (l ++ s) = .ok rs) :
    ∀ r1 ∈ rs1, noEventLines r1.ticker s → ∀ r ∈ rs, r.ticker = r1.ticker →
      ∃ legs2, r.legs = r1.legs ++ legs2 := by
  intro r1 hr1 hne r hr ht
  have e1 := C02.run_result bnbWindowDays l rs1 h1 r1 hr1
  have e := C02.run_result bnbWindowDays (l ++ s) rs h r hr
  rw [ht] at e
  rw [C12_ledger_run l s hw hfar r1.ticker hne r1.pool r1.legs e1] at e
  obtain ⟨legs2, h2, _⟩ := then_ok e
  exact ⟨legs2, h2⟩

theorem C12_ledger_refusal (l s : List Tx) (hw : WellFormed (l ++ s))
    (hfar : ∀ a ∈ l, ∀ b ∈ s, b.ord - a.ord > bnbWindowDays) (t : String) (hne : noEventLines t s)
    (pool1 : Option Pool) (legs1 : List Leg)
    (h1 : runTicker t bnbWindowDays (daysOf t (preprocess l)) = .ok (pool1, legs1)) (e : MErr)
    (h : runTicker t bnbWindowDays (daysOf t (preprocess (l ++ s))) = .error e) :
    ∃ es : List Day, (∀ d ∈ es, ∃ b ∈ s, d.ord = b.ord) ∧ runDays t bnbWindowDays pool1 es [] = .error e := by
  obtain ⟨es, hord, hes⟩ := C12_ledger_security l s hw hfar t hne pool1 legs1 h1
  exact ⟨es, hord, then_error (hes ▸ h)⟩


-- non-vacuity: a history with a 30-day match, later lines 31 days after its last line
def exHist : List Tx :=
  [ ⟨⟨2024, 1, 1⟩, "A", .buy 100 1 0⟩, ⟨⟨2024, 2, 1⟩, "A", .sell 40 2 0⟩, ⟨⟨2024, 2, 10⟩, "A", .buy 10 3 1⟩,
    ⟨⟨2024, 2, 10⟩, "B", .accumulation 5 2 0⟩ ]
def exLater : List Tx :=
  [ ⟨⟨2024, 3, 12⟩, "A", .buy 40 3 0⟩, ⟨⟨2024, 3, 12⟩, "A", .split 2⟩, ⟨⟨2024, 5, 1⟩, "A", .sell 30 2 0⟩,
    ⟨⟨2024, 6, 1⟩, "B", .capreturn 5 1 0⟩ ]
example : WellFormed (exHist ++ exLater) ∧ (∀ a ∈ exHist, ∀ b ∈ exLater, b.ord - a.ord > bnbWindowDays) ∧
    noEventLines "A" exLater ∧ ¬ noEventLines "B" exLater := by decide +kernel


theorem slice_security (dp : Nat) (l s : List Tx) (hw : WellFormed (l ++ s))
    (hfar : ∀ a ∈ l, ∀ b ∈ s, b.ord - a.ord > bnbWindowDays) (t : String) (hne : noEventLines t s)
    (pool1 : Option Pool) (legs1 : List Leg)
    (h1 : runTicker t bnbWindowDays (daysOf t (preprocess l)) = .ok (pool1, legs1))
    (pool : Option Pool) (legs : List Leg)
    (h2 : runTicker t bnbWindowDays (daysOf t (preprocess (l ++ s))) = .ok (pool, legs))
    (p : Date → Bool) (hp : ∀ b ∈ s, p b.date = false) :
    (groupLegs dp t legs).filter (fun d => p d.date) = (groupLegs dp t legs1).filter (fun d => p d.date) := by
  obtain ⟨legs2, rfl, hrd⟩ := then_ok (C12_ledger_run l s hw hfar t hne pool1 legs1 h1 ▸ h2)
  refine groupLegs_append_filter dp t p legs1 legs2 fun x hx => ?_
  obtain ⟨d, hd, e⟩ := runDays_sellDate t bnbWindowDays _ pool1 pool [] legs2 hrd x hx
  obtain ⟨d0, hd0, rfl⟩ := List.mem_map.mp hd
  obtain ⟨b, hb, _, eb⟩ := daysOf_preprocess_date_mem t s d0 hd0
  rw [e]
  exact (congrArg p eb).trans (hp b hb)

theorem slice_unsorted (dp : Nat) (l s : List Tx) (hw : WellFormed (l ++ s))
    (hfar : ∀ a ∈ l, ∀ b ∈ s, b.ord - a.ord > bnbWindowDays) (hne : ∀ t, noEventLines t s)
    (rs1 rs : List TickerResult) (h1 : run bnbWindowDays l = .ok rs1) (h : run bnbWindowDays (l ++ s) = .ok rs)
    (p : Date → Bool) (hp : ∀ b ∈ s, p b.date = false) :
    ((rs.map (fun r => groupLegs dp r.ticker r.legs)).flatten).filter (fun d => p d.date)
      = ((rs1.map (fun r => groupLegs dp r.ticker r.legs)).flatten).filter (fun d => p d.date) := by
  obtain ⟨T, hT, hnew⟩ := tickersOf_append (preprocess l) (preprocess s)
  rw [← preprocess_append l s (lt_of_far hfar)] at hT
  have hrun := (run_ok h).2
  rw [hT] at hrun
  have hold : ∀ t ∈ tickersOf (preprocess l),
      (groupLegs dp t (resultOf bnbWindowDays (l ++ s) t).legs).filter (fun d => p d.date)
        = (groupLegs dp t (resultOf bnbWindowDays l t).legs).filter (fun d => p d.date) := fun t ht =>
    slice_security dp l s hw hfar t (hne t) _ _ ((run_ok h1).2 t ht) _ _
      (hrun t (List.mem_append_left _ ht)) p hp
  -- a security the history does not have: its run on the history is the empty run
  have hnone : ∀ t ∈ T,
      (groupLegs dp t (resultOf bnbWindowDays (l ++ s) t).legs).filter (fun d => p d.date) = [] := fun t ht => by
    have r1 : runTicker t bnbWindowDays (daysOf t (preprocess l)) = .ok (none, []) := by
      rw [daysOf_absent t _ (hnew t ht)]
      exact runTicker_nil t _
    rw [slice_security dp l s hw hfar t (hne t) none [] r1 _ _ (hrun t (List.mem_append_right _ ht)) p hp]
    rfl
  -- both sides are `flatMap`s over the history's securities ++ the new ones: `hnone` empties the new ones,
  -- `hold` rewrites the old
  rw [disposals_by_ticker dp _ (l ++ s) rs h, disposals_by_ticker dp _ l rs1 h1, List.filter_flatMap,
    List.filter_flatMap, hT, List.flatMap_append, List.flatMap_eq_nil_iff.mpr hnone, List.append_nil,
    List.flatMap_def, List.flatMap_def, List.map_congr_left hold]


/-- **C12 at report level — a finished tax year stays as it was.** `l` is the history, `s` the lines added
    later: each dated more than 30 days after every line of `l`, none of them a capital return or an
    accumulation (the property's exclusion), none of them dated in tax year `y`. If the history and the
    extended ledger are both accepted, then year `y`'s slice of the extended run's disposal list
    (`allDisposals`, what the report builders are given) has the same members as the history's (the same
    `Disposal` records: date, security, quantity, proceeds, legs with their rules, costs and gains), its
    `totals` are the same, and so are the year's `dividendsOf`. -/
theorem C12_year_final (dp : Nat) (l s : List Tx) (hw : WellFormed (l ++ s))
    (hfar : ∀ a ∈ l, ∀ b ∈ s, b.ord - a.ord > bnbWindowDays) (hne : ∀ t, noEventLines t s)
    (rs1 rs : List TickerResult) (h1 : run bnbWindowDays l = .ok rs1) (h : run bnbWindowDays (l ++ s) = .ok rs)
    (y : Int) (hy : ∀ b ∈ s, inYear y b.date = false) :
    ((allDisposals dp rs).filter (fun d => inYear y d.date)).Perm ((allDisposals dp rs1).filter (fun d => inYear y d.date)) ∧
    totals ((allDisposals dp rs).filter (fun d => inYear y d.date)) = totals ((allDisposals dp rs1).filter (fun d => inYear y d.date)) ∧
    dividendsOf (l ++ s) y = dividendsOf l y := by
  have hs := slice_unsorted dp l s hw hfar hne rs1 rs h1 h (inYear y) hy
  have hperm : ((allDisposals dp rs).filter (fun d => inYear y d.date)).Perm ((allDisposals dp rs1).filter (fun d => inYear y d.date)) := by
    unfold allDisposals
    refine ((List.mergeSort_perm _ _).filter _).trans ?_
    rw [hs]
    exact ((List.mergeSort_perm _ _).filter _).symm
  exact ⟨hperm, totals_perm hperm, dividendsOf_append_left l s y hy⟩

/-- … and so `mkSummary` of that slice, whatever exemption table is in force -/
theorem C12_year_summary_final (dp : Nat) (ex : List (Int × Rat)) (l s : List Tx) (hw : WellFormed (l ++ s))
    (hfar : ∀ a ∈ l, ∀ b ∈ s, b.ord - a.ord > bnbWindowDays) (hne : ∀ t, noEventLines t s)
    (rs1 rs : List TickerResult) (h1 : run bnbWindowDays l = .ok rs1) (h : run bnbWindowDays (l ++ s) = .ok rs)
    (y : Int) (hy : ∀ b ∈ s, inYear y b.date = false) (sm1 sm : YearSummary)
    (e1 : mkSummary ex l y ((allDisposals dp rs1).filter (fun d => inYear y d.date)) = .ok sm1)
    (e : mkSummary ex (l ++ s) y ((allDisposals dp rs).filter (fun d => inYear y d.date)) = .ok sm) :
    sm.totalGain = sm1.totalGain ∧ sm.totalLoss = sm1.totalLoss ∧ sm.netGain = sm1.netGain ∧
    sm.exempt = sm1.exempt ∧ sm.divIncome = sm1.divIncome ∧ sm.divTax = sm1.divTax ∧
    sm.disposals.Perm sm1.disposals := by
  obtain ⟨hperm, htot, hdiv⟩ := C12_year_final dp l s hw hfar hne rs1 rs h1 h y hy
  obtain ⟨a, ha, rfl⟩ := mkSummary_ok.mp e1
  obtain ⟨b, hb, rfl⟩ := mkSummary_ok.mp e
  cases ha.symm.trans hb
  simp only [htot, hdiv]
  exact ⟨trivial, trivial, trivial, trivial, trivial, trivial, hperm⟩


-- non-vacuity: a history in 2022/23 with a 30-day match, later lines (a purchase, a split, a sale, a new
-- security) from 80 days on, all in 2023/24; both ledgers accepted
def exHist2 : List Tx :=
  [ ⟨⟨2023, 1, 1⟩, "A", .buy 100 1 0⟩, ⟨⟨2023, 2, 1⟩, "A", .sell 40 2 0⟩, ⟨⟨2023, 2, 10⟩, "A", .buy 10 3 1⟩,
    ⟨⟨2023, 2, 10⟩, "A", .dividend 7 1⟩ ]
def exLater2 : List Tx :=
  [ ⟨⟨2023, 5, 1⟩, "A", .buy 40 3 0⟩, ⟨⟨2023, 5, 1⟩, "A", .split 2⟩, ⟨⟨2023, 6, 1⟩, "A", .sell 30 2 0⟩,
    ⟨⟨2023, 6, 1⟩, "C", .buy 5 1 0⟩, ⟨⟨2023, 6, 2⟩, "A", .dividend 3 0⟩ ]
example : WellFormed (exHist2 ++ exLater2) ∧ (∀ a ∈ exHist2, ∀ b ∈ exLater2, b.ord - a.ord > bnbWindowDays) ∧
    (∀ b ∈ exLater2, inYear 2022 b.date = false) ∧ (∀ b ∈ exLater2, b.op.isEvent = false) ∧
    (∃ b ∈ exHist2, inYear 2022 b.date = true) := by decide +kernel
-- both ledgers are accepted (evaluated, not kernel-checked: the run sorts and compares strings)
#guard (run bnbWindowDays exHist2).toBool && (run bnbWindowDays (exHist2 ++ exLater2)).toBool
example : ∀ t, noEventLines t exLater2 := by
  intro t x hx _
  have : ∀ b ∈ exLater2, b.op.isEvent = false := by decide
  exact this x hx


theorem allDisposals_antisymm (dp : Nat) (rs : List TickerResult)
    (hnd : (rs.map (·.ticker)).Nodup) (hdates : ∀ r ∈ rs, ∀ x ∈ r.legs, x.sellDate.ok)
    (a b : Disposal) (ha : a ∈ allDisposals dp rs) (hb : b ∈ allDisposals dp rs)
    (hab : dispLe a b = true) (hba : dispLe b a = true) : a = b :=
  dispLe_antisymm dp rs hnd hdates a b (List.mem_mergeSort.mp ha) (List.mem_mergeSort.mp hb) hab hba

/-- **C12 at report level, exactly.** Under the hypotheses of `C12_year_final` and `Spec.DatesOk`, year
    `y`'s slice of the extended run's `allDisposals` *is* the history's: the same records in the same
    order. -/
theorem C12_year_exact (dp : Nat) (l s : List Tx) (hw : WellFormed (l ++ s)) (hd : Spec.DatesOk (l ++ s))
    (hfar : ∀ a ∈ l, ∀ b ∈ s, b.ord - a.ord > bnbWindowDays) (hne : ∀ t, noEventLines t s)
    (rs1 rs : List TickerResult) (h1 : run bnbWindowDays l = .ok rs1) (h : run bnbWindowDays (l ++ s) = .ok rs)
    (y : Int) (hy : ∀ b ∈ s, inYear y b.date = false) :
    (allDisposals dp rs).filter (fun d => inYear y d.date) = (allDisposals dp rs1).filter (fun d => inYear y d.date) := by
  obtain ⟨hperm, _, _⟩ := C12_year_final dp l s hw hfar hne rs1 rs h1 h y hy
  obtain ⟨hnd, hdates⟩ := run_tickers_nodup_legs_ok _ (l ++ s) hd rs h
  exact List.Perm.eq_of_pairwise (le := fun a b => dispLe a b = true)
    (fun a b ha hb => allDisposals_antisymm dp rs hnd hdates a b (List.mem_filter.mp ha).1
      (List.mem_filter.mp (hperm.mem_iff.mpr hb)).1)
    ((allDisposals_sorted dp rs).filter _) ((allDisposals_sorted dp rs1).filter _) hperm

theorem C12_year_summary_exact (dp : Nat) (ex : List (Int × Rat)) (l s : List Tx) (hw : WellFormed (l ++ s))
    (hd : Spec.DatesOk (l ++ s))
    (hfar : ∀ a ∈ l, ∀ b ∈ s, b.ord - a.ord > bnbWindowDays) (hne : ∀ t, noEventLines t s)
    (rs1 rs : List TickerResult) (h1 : run bnbWindowDays l = .ok rs1) (h : run bnbWindowDays (l ++ s) = .ok rs)
    (y : Int) (hy : ∀ b ∈ s, inYear y b.date = false) :
    mkSummary ex (l ++ s) y ((allDisposals dp rs).filter (fun d => inYear y d.date))
      = mkSummary ex l y ((allDisposals dp rs1).filter (fun d => inYear y d.date)) := by
  obtain ⟨_, _, hdiv⟩ := C12_year_final dp l s hw hfar hne rs1 rs h1 h y hy
  rw [C12_year_exact dp l s hw hd hfar hne rs1 rs h1 h y hy]
  unfold mkSummary
  rw [hdiv]

-- non-vacuity: the example ledgers above are `Spec.DatesOk`
example : Spec.DatesOk (exHist2 ++ exLater2) := by
  intro t ht
  have : ∀ b ∈ exHist2 ++ exLater2, 1 ≤ b.date.y ∧ b.date.valid = true := by decide +kernel
  exact Date.ok_of_valid t.date (this t ht).1 (this t ht).2

end Cgt.C12
