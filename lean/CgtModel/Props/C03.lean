import CgtModel.Lemmas.Prepass
import CgtModel.Lemmas.WellFormed
import CgtModel.Props.Formulas
-- Props.Formulas brings Lemmas/Report (`C02.run_result`); no proof below uses a `Formulas` theorem: the audit
-- of C03 reaches the `Formulas.*` names listed under it through this import
/-! # C03 — allowable expenditure is conserved

Statement: for every accepted ledger and security, the allowable cost of all disposal legs plus the
cost left in the closing holding equals the total cost of all acquisitions (quantity × price + fees)
plus accumulation amounts minus net capital returns that took effect; nothing is deducted twice,
dropped or moved to another security.

Proved for the model:
* `C03_main_pass_conserves`, `C03_run_conserves` — whatever rules match the shares, Σ legs' cost + closing
  pool cost = Σ over the security's purchases of (quantity × price + fees + the cost offset the pre-pass's
  lots give that purchase, `offsetFor d.ord lots`); `C03_ledger` keeps of this only that *some* assignment of
  offsets to purchases makes the equation hold, which says little by itself — `C03_ledger_full` is the
  statement with content;
* `C03_offsets_split` — that sum is Σ (quantity × price + fees) + Σ offsets;
* `C03_event_moves_offsets_exactly` — each capital return / accumulation that finds shares held
  changes Σ offsets by exactly its (signed) amount, and one that finds none changes nothing
  (`C03_event_without_holding_is_inert`);
* `C03_security_full`, `C03_ledger_full` — the composition over the whole pre-pass loop: Σ offsets at its
  end = Σ of the events that took effect, `effAll` (`prepass_offsets_sum`), so the full statement holds
  for every security of a validator-clean ledger the matcher accepts;
* other securities: the result of a security is a function of its own day list (C09).
Zero-quantity purchases with a cost (accepted by `report` because the validator is not run: known
finding D14) are excluded by `buysNonzero`, which validator-clean ledgers meet.
-/
namespace Cgt.C03
open Cgt

theorem C03_offsets_split (f : Day → Rat) (ds : List Day) :
    totalDayCost (C02.setOffsets f ds) =
      totalDayCost (C02.setOffsets (fun _ => 0) ds) + rsum ((ds.filter (fun d => d.buy.isSome)).map f) := by
  induction ds with
  | nil =>
    simp only [C02.setOffsets, List.map_nil, totalDayCost, List.filter_nil, rsum_nil]
    grind
  | cons d ds ih =>
    simp only [C02.setOffsets, List.map_cons, totalDayCost] at ih ⊢
    rw [ih]
    cases hb : d.buy with
    | none =>
      simp only [dayCost, hb, Option.isSome_none, Bool.false_eq_true, not_false_eq_true, List.filter_cons_of_neg]
      grind
    | some b =>
      simp only [dayCost, hb, Option.isSome_some, List.filter_cons_of_pos, List.map_cons, rsum_cons]
      grind

theorem C03_main_pass_conserves (t : String) (w : Int) (ds : List Day) (pool : Option Pool)
    (legs : List Leg) (hok : daysOk ds) (hnz : buysNonzero ds) (h : runTicker t w ds = .ok (pool, legs)) :
    ∃ lots, prepass t [] ds = .ok lots ∧
      legCost legs + poolC' pool = totalDayCost (C02.setOffsets (fun d => offsetFor d.ord lots) ds) :=
  runTicker_cost hok hnz h

theorem C03_run_conserves (w : Int) (l : List Tx) (rs : List TickerResult) (h : run w l = .ok rs) :
    ∀ r ∈ rs, daysOk (daysOf r.ticker (preprocess l)) → buysNonzero (daysOf r.ticker (preprocess l)) →
      ∃ lots, prepass r.ticker [] (daysOf r.ticker (preprocess l)) = .ok lots ∧
        legCost r.legs + poolC' r.pool
          = totalDayCost (C02.setOffsets (fun d => offsetFor d.ord lots) (daysOf r.ticker (preprocess l))) :=
  fun r hr hok hnz => runTicker_cost hok hnz (C02.run_result w l rs h r hr)

/-- for *some* assignment of offsets to the purchase days only: `C03_run_conserves` says which (the pre-pass's),
    `C03_ledger_full` what they add up to -/
theorem C03_ledger (w : Int) (l : List Tx) (hwf : WellFormed l) (rs : List TickerResult)
    (h : run w l = .ok rs) :
    ∀ r ∈ rs, ∃ f : Day → Rat, legCost r.legs + poolC' r.pool
        = totalDayCost (C02.setOffsets f (daysOf r.ticker (preprocess l))) := fun r hr =>
  have ⟨_, _, h⟩ := C03_run_conserves w l rs h r hr (wellFormed_days l hwf r.ticker).1 (wellFormed_days l hwf r.ticker).2
  ⟨_, h⟩

/-- the model's `purchasesOf` (`purchases_eq`), in the form `C03_offsets_split` leaves it -/
def purchases (ds : List Day) : Rat := totalDayCost (C02.setOffsets (fun _ => 0) ds)

theorem purchases_eq (ds : List Day) : purchases ds = purchasesOf ds := by
  unfold purchases purchasesOf
  induction ds with
  | nil => rfl
  | cons d ds ih =>
    simp only [C02.setOffsets, List.map_cons, totalDayCost, rsum_cons] at ih ⊢
    rw [ih]
    cases d.buy with
    | none => simp [dayCost]
    | some b =>
      simp only [dayCost]
      grind

theorem C03_security_full (t : String) (w : Int) (ds : List Day) (pool : Option Pool) (legs : List Leg)
    (hok : daysOk ds) (hnz : buysNonzero ds) (hstrict : ds.Pairwise (fun a b => a.ord < b.ord))
    (h : runTicker t w ds = .ok (pool, legs)) :
    legCost legs + poolC' pool = purchases ds + effAll t [] ds := by
  obtain ⟨lots, hpre, hcost⟩ := runTicker_cost hok hnz h
  rw [C03_offsets_split, prepass_offsets_sum hok hstrict hpre] at hcost
  exact hcost

theorem C03_ledger_full (w : Int) (l : List Tx) (hwf : WellFormed l) (rs : List TickerResult)
    (h : run w l = .ok rs) :
    ∀ r ∈ rs, legCost r.legs + poolC' r.pool
      = purchases (daysOf r.ticker (preprocess l)) + effAll r.ticker [] (daysOf r.ticker (preprocess l)) :=
  fun r hr => C03_security_full r.ticker w _ r.pool r.legs (wellFormed_days l hwf r.ticker).1
    (wellFormed_days l hwf r.ticker).2 (daysOf_strict l r.ticker) (C02.run_result w l rs h r hr)

theorem C03_event_moves_offsets_exactly (adj : Rat) (lots : List Lot) (hnn : ∀ l ∈ lots, 0 ≤ l.held)
    (hth : totalHeld lots ≠ 0) : offSum (applyAdj adj lots) = offSum lots + adj :=
  applyAdj_sum adj lots hnn hth

theorem C03_event_without_holding_is_inert (adj : Rat) (lots : List Lot) (h : totalHeld lots = 0) :
    applyAdj adj lots = lots := applyAdj_none_held adj lots h

def exDays : List Day :=
  [ { date := ⟨2024, 1, 1⟩, buy := some ⟨0, 100, 2, 5⟩ },
    { date := ⟨2024, 2, 1⟩, sells := [⟨1, 30, 5, 1⟩] },
    { date := ⟨2024, 2, 5⟩, buy := some ⟨3, 20, 3, 2⟩ } ]
def costOf (r : Except MErr (Option Pool × List Leg)) : Rat :=
  match r with | .ok (p, legs) => legCost legs + poolC' p | .error _ => -1
example : costOf (runTicker "A" 30 exDays) = 100 * 2 + 5 + 20 * 3 + 2 := by decide +kernel

-- non-vacuity of "took effect": a capital return and an accumulation while 100 shares are held count,
-- an accumulation after everything was sold does not
def exEvents : List Day :=
  [ { date := ⟨2024, 1, 1⟩, buy := some ⟨0, 100, 2, 5⟩ },
    { date := ⟨2024, 2, 1⟩, caps := [(1, 20)] },
    { date := ⟨2024, 3, 1⟩, accs := [7] },
    { date := ⟨2024, 4, 1⟩, sells := [⟨3, 100, 3, 0⟩] },
    { date := ⟨2024, 5, 1⟩, accs := [9] } ]
example : effAll "A" [] exEvents = -13 ∧ purchases exEvents = 205 := by decide +kernel
example : exEvents.Pairwise (fun a b => a.ord < b.ord) := by decide +kernel

end Cgt.C03
