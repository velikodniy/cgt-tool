import CgtModel.Lemmas.Usage
import CgtModel.Lemmas.WellFormed
import CgtModel.Props.Formulas
-- Props.Formulas brings Lemmas/Report (`C02.run_result`); no proof below uses a `Formulas` theorem: the audit
-- of C02 reaches the `Formulas.*` names listed under it through this import
/-! # C02 — shares are conserved

Statement (properties.jsonl): for every accepted ledger and security, (a) the legs of each disposal
add up to exactly the quantity sold that day; (b) the shares matched against any one day's
acquisitions (same-day plus 30-day legs, in that day's units) never exceed what was acquired that
day; (c) the closing holding equals all acquisitions minus all disposals, rescaled by the splits and
unsplits that fall between them.

Proved here, for day lists of any length with positive split factors and non-negative quantities (`daysOk`;
validator-clean ledgers give such lists, `wellFormed_days`):
* `C02_legs_sum`, `C02_closing_holding` — (a) and (c) for the model of the matcher, for every security whose
  day list is `daysOk`; `C02_ledger` — both from the raw ledger (`WellFormed`), no hypothesis on intermediate
  data; all three lift `C02.ticker_conserves` (Lemmas/Conserve.lean, one security's whole run). (a) is proved
  in block form: the leg list is one block per day of the security, in order, each block dated that day and
  adding up to the day's sales (`DayLegs`). "The legs dated d add up to `d.S`" follows because a security's day
  dates differ (`daysOf_strict`), and is stated nowhere;
* `C02_acquisition_not_overused_partial` — (b) in the form the code maintains it: on every
  acquisition day, Same-Day legs plus the look-ahead claims outstanding on that day's purchase never
  exceed the purchase, and every claim is bounded by what the day's own disposals leave over
  (`claimsOk`); `lookahead_accounts` shows the claims a disposal adds equal its 30-day legs (converted
  by the split factors between);
* `C02_no_acquisition_overused` — (b) in full, from the raw ledger: the 30-day legs regrouped by the
  acquisition day they are identified with (`Lemmas/Usage.lean`; day dates of a ledger are distinct).

Names of this namespace stated elsewhere, because statements there mention them: `C02.setOffsets` (Lemmas/Matcher.lean),
`C02.run_result` (Lemmas/Report.lean), `C02.prodR`, `C02.rescaledNet`, `C02.netPos_eq`, `C02.ticker_conserves`
(Lemmas/Conserve.lean).
-/
namespace Cgt.C02
open Cgt

def C02_statement_a (ds : List Day) (legs : List Leg) : Prop := DayLegs ds legs

/-- **C02 (a)+(b′)**, (b′) being the Same-Day part of (b): `sdQty ls ≤ d.B` in `DayLegs` -/
theorem C02_legs_sum (w : Int) (l : List Tx) (rs : List TickerResult) (h : run w l = .ok rs) :
    ∀ r ∈ rs, daysOk (daysOf r.ticker (preprocess l)) →
      DayLegs (daysOf r.ticker (preprocess l)) r.legs :=
  fun r hr hok => (ticker_conserves r.ticker w _ r.pool r.legs hok (run_result w l rs h r hr)).1

theorem C02_closing_holding (w : Int) (l : List Tx) (rs : List TickerResult) (h : run w l = .ok rs) :
    ∀ r ∈ rs, daysOk (daysOf r.ticker (preprocess l)) →
      poolQ' r.pool = rescaledNet (daysOf r.ticker (preprocess l)) ∧ 0 ≤ poolQ' r.pool :=
  fun r hr hok => (ticker_conserves r.ticker w _ r.pool r.legs hok (run_result w l rs h r hr)).2

theorem C02_ledger (w : Int) (l : List Tx) (hwf : WellFormed l) (rs : List TickerResult)
    (h : run w l = .ok rs) :
    ∀ r ∈ rs, DayLegs (daysOf r.ticker (preprocess l)) r.legs ∧
      poolQ' r.pool = rescaledNet (daysOf r.ticker (preprocess l)) ∧ 0 ≤ poolQ' r.pool := fun r hr =>
  ticker_conserves r.ticker w _ r.pool r.legs (wellFormed_days l hwf r.ticker).1 (run_result w l rs h r hr)

theorem C02_acquisition_not_overused_partial (t : String) (w : Int) (pool : Option Pool) (d : Day)
    (claimed : Rat) (future : List Day) (cl : List Rat) (pool' : Option Pool) (cl' : List Rat)
    (legs : List Leg) (hd : d.ok) (hpos : ratiosPos future) (hp : 0 ≤ poolQ' pool)
    (hc0 : 0 ≤ claimed) (hc1 : claimed + min d.B (max d.S 0) ≤ d.B) (hc : claimsOk future cl)
    (h : dayStep t w pool d claimed future cl = .ok (pool', cl', legs)) :
    sdQty legs + claimed ≤ d.B ∧ claimsOk future cl' ∧ 0 ≤ poolQ' pool' := by
  have p := dayStep_spec ⟨hd, hpos, hp, hc0, hc1, hc⟩ h
  exact ⟨p.sameDay_fits, p.claims, p.pool_nonneg⟩

/-- the reservation error of the BUY stage is unreachable under the invariant -/
theorem C02_reservation_never_exceeds (t : String) (d : Day) (claimed : Rat)
    (hc1 : claimed + min d.B (max d.S 0) ≤ d.B) (hB : 0 ≤ d.B) :
    ∃ a, buyStage t d claimed = .ok a := by
  unfold buyStage
  cases hb : d.buy with
  | none => exact ⟨0, rfl⟩
  | some b =>
    have := Day.B_some hb
    exact ⟨b.q - claimed, if_neg (by grind)⟩

-- non-vacuity: a concrete accepted day list: a disposal, a 30-day repurchase, and a 2-for-1 split on the
-- repurchase day itself (it applies after that day's trades: nothing is rescaled between disposal and
-- repurchase, the whole closing holding is doubled)
def exDays : List Day :=
  [ { date := ⟨2024, 1, 1⟩, buy := some ⟨0, 100, 1, 0⟩ },
    { date := ⟨2024, 2, 1⟩, sells := [⟨1, 10, 5, 0⟩] },
    { date := ⟨2024, 2, 5⟩, buy := some ⟨3, 20, 1, 0⟩, r := 2 } ]

def isOk : Except ε α → Bool | .ok _ => true | .error _ => false

example : isOk (runTicker "A" 30 exDays) = true := by decide +kernel
example : daysOk exDays := by
  unfold exDays
  simp only [daysOk, Day.ok, sellsOk, Day.B]
  decide +kernel
example : rescaledNet exDays = 220 := by decide +kernel

-- non-vacuity of `WellFormed`: a ledger with a same-day pair, a 30-day repurchase, a split and fees (that `run`
-- accepts it is not shown: `List.mergeSort` does not evaluate under `decide +kernel`)
def exLedger : List Tx :=
  [ ⟨⟨2024, 1, 1⟩, "A", .buy 100 2 5⟩, ⟨⟨2024, 2, 1⟩, "A", .sell 40 3 1⟩, ⟨⟨2024, 2, 1⟩, "A", .buy 10 (5/2) 0⟩,
    ⟨⟨2024, 2, 10⟩, "A", .split 2⟩, ⟨⟨2024, 2, 20⟩, "A", .buy 30 1 2⟩, ⟨⟨2024, 3, 1⟩, "B", .buy 1 1 0⟩ ]
example : WellFormed exLedger := by decide +kernel

theorem C02_no_acquisition_overused (w : Int) (l : List Tx) (hwf : WellFormed l) (rs : List TickerResult)
    (h : run w l = .ok rs) :
    ∀ r ∈ rs, ∀ e ∈ daysOf r.ticker (preprocess l),
      sdUse e r.legs + bbUse (daysOf r.ticker (preprocess l)) e r.legs ≤ e.B :=
  fun r hr => runTicker_no_acquisition_overused (daysOf_strict l r.ticker) (wellFormed_days l hwf r.ticker).1
    (run_result w l rs h r hr)

end Cgt.C02
