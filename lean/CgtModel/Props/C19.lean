import CgtModel.Awards
/-! # C19 — RSU vests use the nearest vest date within seven days back, never a guess

Proved for the model of `get_fmv` over any entry map, symbol and deposit date, with the look-back
bounds read from the source on every run (`rsuLookbackFrom = 1`, `rsuLookbackDays = 7`):
* `C19_lookup_sound` — a result (v, p) has v ≤ d, d − 7 ≤ v, p is the map's value for (SYMBOL, v), and
  no date strictly between v and d (nor d itself, when v < d) has an entry: v is the closest;
* `C19_lookup_complete` — no result iff no date in [d − 7, d] has an entry for the symbol;
* `C19_never_later_nor_older` — in particular an entry after the deposit date or more than 7 days before
  it is never used;
* `C19_case_insensitive` — the looked-up symbol is upper-cased (ASCII) before the look-up;
* `C19_vest_value_wins`, `inserted_monotone` — one step of an award's details: a detail that carries a
  vest market value inserts that entry and sets the mark (`inserted`) on which `awardEntries` skips the
  fallback price, and no later detail clears the mark (the fold over an award's details is not stated);
* `C19_last_duplicate_wins` — of two inserts for the same key the later one is returned.
"No awards file → the conversion fails naming symbol and date" is the converter's branch, checked on
the real converter by the correspondence.
-/
namespace Cgt.C19
open Cgt Cgt.Awards

theorem bounds_pinned : rsuLookbackFrom = 1 ∧ rsuLookbackDays = 7 := by decide

/-- what a scan of the dates `hi`, `hi - 1`, … down to `lo + 1` for the first entry may return -/
def FirstEntry (es : List Entry) (sym : String) (lo hi : Int) : Option (Int × Rat) → Prop
  | none => ∀ u : Int, lo < u → u ≤ hi → getE es sym u = none
  | some (v, p) => getE es sym v = some p ∧ lo < v ∧ v ≤ hi ∧ ∀ u : Int, v < u → u ≤ hi → getE es sym u = none

theorem lookback_first (es : List Entry) (sym : String) (d : Int) : ∀ (fuel : Nat) (k : Int),
    FirstEntry es sym (d - k - fuel) (d - k) (lookback es sym d k fuel) := by
  intro fuel
  induction fuel with
  | zero => intro k u h1 h2; omega
  | succ n ih =>
    intro k
    simp only [lookback]
    cases hg : getE es sym (d - k) with
    | some q => exact ⟨hg, by omega, by omega, fun u h1 h2 => by omega⟩
    | none =>
      -- the date `d - k` holds no entry, the dates below it are the rest of the scan
      have step : ∀ u : Int, u ≤ d - k → (u ≤ d - (k + 1) → getE es sym u = none) → getE es sym u = none := by
        intro u h2 h
        by_cases hu : u = d - k
        · exact hu ▸ hg
        · exact h (by omega)
      have := ih (k + 1)
      cases hr : lookback es sym d (k + 1) n with
      | none =>
        rw [hr] at this
        exact fun u h1 h2 => step u h2 (this u (by omega))
      | some r =>
        rw [hr] at this
        obtain ⟨a, b, c, e⟩ := this
        exact ⟨a, by omega, by omega, fun u h1 h2 => step u h2 (e u h1)⟩

/-- the look-up is the same scan started one step earlier, at the deposit date itself -/
theorem lookup_first (es : List Entry) (symbol : String) (d : Int) :
    FirstEntry es symbol.toUpper (d - rsuLookbackDays - 1) d (lookup es symbol d) := by
  have h : lookup es symbol d = lookback es symbol.toUpper d 0 (7 + 1) := by
    simp only [lookup, show (rsuLookbackDays - rsuLookbackFrom + 1).toNat = 7 from rfl, lookback, Int.sub_zero]
    rfl
  have lo : d - 0 - ((7 + 1 : Nat) : Int) = d - rsuLookbackDays - 1 := by
    simp only [rsuLookbackDays]
    omega
  have := lookback_first es symbol.toUpper d (7 + 1) 0
  rwa [← h, lo, Int.sub_zero] at this

theorem C19_lookup_sound (es : List Entry) (symbol : String) (d v : Int) (p : Rat)
    (h : lookup es symbol d = some (v, p)) :
    getE es symbol.toUpper v = some p ∧ v ≤ d ∧ d - rsuLookbackDays ≤ v ∧
      ∀ u : Int, v < u → u ≤ d → getE es symbol.toUpper u = none := by
  obtain ⟨a, b, c, e⟩ := h ▸ lookup_first es symbol d
  exact ⟨a, c, by omega, e⟩

theorem C19_lookup_complete (es : List Entry) (symbol : String) (d : Int) :
    lookup es symbol d = none ↔ ∀ u : Int, d - rsuLookbackDays ≤ u → u ≤ d → getE es symbol.toUpper u = none := by
  have := lookup_first es symbol d
  constructor
  · intro h u h1 h2
    exact (h ▸ this) u (by omega) h2
  · intro h
    cases hr : lookup es symbol d with
    | none => rfl
    | some r =>
      obtain ⟨a, b, c, _⟩ := hr ▸ this
      exact absurd (h r.1 (by omega) c) (by simp [a])

theorem C19_never_later_nor_older (es : List Entry) (symbol : String) (d v : Int) (p : Rat)
    (h : lookup es symbol d = some (v, p)) : v ≤ d ∧ d - 7 ≤ v := by
  have := C19_lookup_sound es symbol d v p h
  simp only [rsuLookbackDays] at this
  exact ⟨this.2.1, this.2.2.1⟩

/-- the looked-up symbol passes through `String.toUpper`, which changes ASCII letters only (the source's
    `to_uppercase` is Unicode's); nothing is said here about the case of the entries' keys -/
theorem C19_case_insensitive (es : List Entry) (s s' : String) (d : Int) (h : s.toUpper = s'.toUpper) :
    lookup es s d = lookup es s' d := by
  unfold lookup; rw [h]

theorem C19_last_duplicate_wins (es : List Entry) (sym : String) (ord : Int) (p : Rat) :
    getE (es ++ [((sym, ord), p)]) sym ord = some p := by
  simp [getE]

theorem C19_vest_value_wins (sym : String) (parent : Int) (a : Acc) (d : Detail) (v : Rat)
    (hv : d.vestFmv = some (some v)) :
    (detailStep sym parent a d).inserted = true ∧
    (detailStep sym parent a d).entries = a.entries ++ [((sym, d.vestDate.getD parent), v)] := by
  -- a detail with a vest value takes `extract`'s first branch, flagged as a vest; recording the
  -- fallback afterwards touches neither `entries` nor `inserted`
  have he : extract parent d = (some (d.vestDate.getD parent), some v, true) := by rw [extract, hv]
  rw [detailStep, he]
  simp only [if_true]
  split <;> exact ⟨rfl, rfl⟩

theorem inserted_monotone (sym : String) (parent : Int) (a : Acc) (d : Detail) (h : a.inserted = true) :
    (detailStep sym parent a d).inserted = true := by
  unfold detailStep
  split
  · rename_i date v isVest _
    -- recording the fallback changes `fallback` only; before it `inserted` is set (a vest) or kept
    cases isVest
    · simp only [Bool.false_eq_true, if_false]
      split <;> exact h
    · simp only [if_true]
      split <;> rfl
  · exact h

def exEntries : List Entry := [(("ACME", 100), 10), (("ACME", 95), 9), (("ACME", 103), 11)]
example : lookup exEntries "acme" 102 = some (100, 10) := by decide +kernel
example : lookup exEntries "acme" 111 = none := by decide +kernel
example : lookup exEntries "acme" 110 = some (103, 11) := by decide +kernel

end Cgt.C19
