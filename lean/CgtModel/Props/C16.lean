import CgtModel.Props.C07
import CgtModel.Lemmas.Order
/-! # C16 — output is deterministic and canonically ordered

The model has no hash maps: wherever the Rust iterates one (pools, matches per year, disposals per
key), the model produces a list that is then sorted by a total order on distinct keys, so its output is
a function of the input alone. Proved for the model:
* `C16_disposals_sorted` — `allDisposals dp rs`, the list the report's years are cut from (each year's
  list is a `filter` of it), is ordered by date, then ticker;
* `C16_holdings_sorted` — holdings are ordered by ticker;
* `C16_years_ascending` — tax years are strictly ascending (C07);
* `C16_sort_is_canonical` — sorting any permutation of the same disposal list with `dispLe` gives a
  list with the same elements in `dispLe` order (so the order in which a hash map yields them cannot
  show, up to ties).
* `C16_order_independent`, `C16_report_order_free` — **ties do not occur, proved**: results of pairwise
  different securities whose legs' disposal dates are `Date.ok` give, in any order of arrival (the order a
  hash map yields them in), the same disposal list element for element and the same holdings list; and
  every accepted ledger whose dates are `Spec.DatesOk` produces such results (`run_tickers_nodup_legs_ok`: the securities are
  those of the ledger, each once; every leg is dated by a line's date).
Partial: "all process executions" is observed, not proved — the check runs each case several times
in-process (every `HashMap::new()` draws a fresh seed) and as separate `cgt-tool` processes for
`report` (plain, json) and `parse`, and compares bytes; the converter's timestamp line is masked. The order
of the transactions echoed in the text report (date, then ticker) is not modelled; the check tests it on the
real text output.
-/
namespace Cgt.C16
open Cgt

theorem C16_disposals_sorted (dp : Nat) (rs : List TickerResult) :
    (allDisposals dp rs).Pairwise (fun a b => dispLe a b = true) :=
  allDisposals_sorted dp rs

theorem C16_sort_is_canonical (l l' : List Disposal) (h : l.Perm l') :
    (l.mergeSort dispLe).Perm (l'.mergeSort dispLe) ∧
    (l.mergeSort dispLe).Pairwise (fun a b => dispLe a b = true) ∧
    (l'.mergeSort dispLe).Pairwise (fun a b => dispLe a b = true) :=
  ⟨((List.mergeSort_perm l _).trans h).trans (List.mergeSort_perm l' _).symm,
   List.pairwise_mergeSort dispLe_trans dispLe_total _,
   List.pairwise_mergeSort dispLe_trans dispLe_total _⟩

theorem C16_holdings_sorted (rs : List TickerResult) :
    (holdingsOf rs).Pairwise (fun a b => a.1 ≤ b.1) :=
  (List.pairwise_mergeSort tickerLe_trans tickerLe_total _).imp fun h => of_decide_eq_true h

theorem C16_years_ascending (ex : List (Int × Rat)) (l : List Tx) (ds : List Disposal)
    (out : List YearSummary) (h : allYears ex l ds = .ok out) : C07.StrictAsc (out.map (·.year)) :=
  C07.C07_years_ascending ex l ds out h

theorem C16_order_independent (dp : Nat) (rs rs' : List TickerResult) (hp : rs.Perm rs')
    (hnd : (rs.map (·.ticker)).Nodup) (hdates : ∀ r ∈ rs, ∀ x ∈ r.legs, x.sellDate.ok) :
    allDisposals dp rs = allDisposals dp rs' ∧ holdingsOf rs = holdingsOf rs' := by
  refine ⟨mergeSort_congr dispLe_trans dispLe_total (hp.map _).flatten (dispLe_antisymm dp rs hnd hdates),
    mergeSort_congr tickerLe_trans tickerLe_total (hp.filterMap _) ?_⟩
  intro a b ha hb hab hba
  simp only [List.mem_filterMap, Option.map_eq_some_iff] at ha hb
  obtain ⟨r, hr, p, hp1, rfl⟩ := ha
  obtain ⟨r', hr', p', hp2, rfl⟩ := hb
  simp only [decide_eq_true_eq] at hab hba
  -- stated first: unifying `String.le_antisymm` with the pairs' `.1` inside `nodup_map_inj` is slow
  have htk : r.ticker = r'.ticker := String.le_antisymm hab hba
  obtain rfl := nodup_map_inj (·.ticker) rs hnd r hr r' hr' htk
  rw [Option.some.inj (hp1.symm.trans hp2)]

theorem C16_report_order_free (dp : Nat) (l : List Tx) (hd : Spec.DatesOk l) (rs rs' : List TickerResult)
    (h : run bnbWindowDays l = .ok rs) (hp : rs.Perm rs') :
    allDisposals dp rs = allDisposals dp rs' ∧ holdingsOf rs = holdingsOf rs' :=
  C16_order_independent dp rs rs' hp (run_tickers_nodup_legs_ok _ l hd rs h).1 (run_tickers_nodup_legs_ok _ l hd rs h).2

-- non-vacuity: two securities' results in either order
def exRs : List TickerResult :=
  [ { ticker := "B", pool := some ⟨5, 10⟩, legs := [] },
    { ticker := "A", pool := none, legs := [ { (default : Leg) with sellDate := ⟨2024, 2, 29⟩ } ] } ]
example : exRs.Perm exRs.reverse ∧ (exRs.map (·.ticker)).Nodup ∧ ∀ r ∈ exRs, ∀ x ∈ r.legs, x.sellDate.ok := by
  refine ⟨(List.reverse_perm _).symm, by decide, ?_⟩
  intro r hr x hx
  simp only [exRs, List.mem_cons, List.not_mem_nil, or_false] at hr
  rcases hr with rfl | rfl
  · cases hx
  · simp only [List.mem_cons, List.not_mem_nil, or_false] at hx
    subst hx
    unfold Date.ok leapP
    decide

end Cgt.C16
