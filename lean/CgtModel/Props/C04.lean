import CgtModel.Config
import CgtModel.Lemmas.Conserve
import CgtModel.Lemmas.Round
import CgtModel.Props.Formulas
/-! # C04 — report arithmetic is self-consistent from legs to tax-year totals

Statement (properties.jsonl): a disposal's gross proceeds are quantity × price of that day's sales,
net proceeds are gross − sale fees, its quantity is the sum of its legs, the legs' gains sum to net
proceeds − the legs' total allowable cost; a year's total gain is the sum of its disposals' positive
net results, total loss the sum of the negative ones, net gain their difference, the count the
number of disposals, dividend income/tax the sums of that year's DIVIDEND lines, the exemption the
configured amount (an unconfigured year is an error, never zero), taxable = max(0, net − exemption).

Proved for the model: per SELL line, for one `sellStep` under the matcher's invariant
(`C04_sell_proceeds`); per disposal record, for `mkDisposal` of any leg list (`C04_disposal_fields`: the
two proceeds totals are `round_dp` of the exact sums, so "equals" is "within half a unit of the last
place", for every number of places); per year summary (`C04_totals`, `C04_summary`,
`C04_unconfigured_year_is_error`, `C04_report_years`); the exemption table and its override files
(`C04_override_*`, `C04_two_overrides`). That a disposal's legs are those of its day's SELL lines is
how the model builds it (`groupLegs`), not a theorem; dividends are sums by definition
(`C04_dividends`); the model has no count field.

Props.Formulas brings Lemmas/Report (`mkSummary_ok`, `calculate_ok`, `reportFrom_*_ok`, `allYears_ok`,
`mapExcept_mem`, `totals_cons`, `lookupExemption_append`), which the proofs below use; none uses a
`Formulas` theorem: tools/audit.py reaches the `Formulas.*` names that obligations.json lists under C04
through this import.
-/
namespace Cgt.C04
open Cgt

/-- the five hypotheses on the state are `SellInv`, which `RunInv` keeps along an accepted run -/
theorem C04_sell_proceeds (t : String) (w : Int) (d : Day) (st : MState) (s : Trade)
    (future : List Day) (cl : List Rat) (st' : MState) (cl' : List Rat) (legs : List Leg)
    (hr : 0 < d.r) (hpos : ratiosPos future) (ha : 0 ≤ st.avail) (hp : 0 ≤ st.poolQ)
    (hs : 0 < s.q) (hc : claimsOk future cl)
    (h : sellStep t w d st s future cl = .ok (st', cl', legs)) :
    legGross legs = s.q * s.p ∧ legNet legs = s.q * s.p - s.f ∧
      legGain legs = legNet legs - legCost legs := by
  have sp := sellStep_spec ⟨hr, hpos, ha, hp, hc⟩ (Rat.le_of_lt hs) h
  have lo : ∀ l ∈ legs, LegOf s l := fun l hl => (sellStep_legs h l hl).legOf
  have hq : s.q ≠ 0 := by grind
  have := legs_sums s hq legs lo
  rw [sp.qty] at this
  refine ⟨this.1, ?_, this.2.2⟩
  rw [this.2.1]
  have : s.q / s.q = 1 := by grind
  rw [this]; grind

theorem C04_disposal_fields (dp : Nat) (ticker : String) (date : Date) (legs : List Leg) :
    let d := mkDisposal dp ticker date legs
    d.qty = legQty legs ∧
    rabs (d.gross - legGross legs) ≤ 1 / (2 * pow10 dp) ∧
    rabs (d.proceeds - legNet legs) ≤ 1 / (2 * pow10 dp) ∧
    d.netGain = legGain legs ∧ d.totalCost = legCost legs := by
  refine ⟨rfl, roundHalfEven_close dp _, roundHalfEven_close dp _, rfl, rfl⟩

def posPart (x : Rat) : Rat := if x > 0 then x else 0
def negPart (x : Rat) : Rat := if x < 0 then rabs x else 0

theorem C04_totals (ds : List Disposal) :
    (totals ds).1 = rsum (ds.map (fun d => posPart d.netGain)) ∧
    (totals ds).2 = rsum (ds.map (fun d => negPart d.netGain)) := by
  induction ds with
  | nil => exact ⟨rfl, rfl⟩
  | cons d ds ih =>
    rw [totals_cons, ih.1, ih.2]
    exact ⟨Rat.add_comm .., Rat.add_comm ..⟩

theorem C04_unconfigured_year_is_error (ex : List (Int × Rat)) (l : List Tx) (y : Int)
    (ds : List Disposal) (h : lookupExemption ex y = none) :
    mkSummary ex l y ds = .error (.unsupportedExemptionYear y) := by
  unfold mkSummary; rw [h]

theorem C04_summary (ex : List (Int × Rat)) (l : List Tx) (y : Int) (ds : List Disposal)
    (s : YearSummary) (h : mkSummary ex l y ds = .ok s) :
    s.year = y ∧ s.disposals = ds ∧ lookupExemption ex y = some s.exempt ∧
    s.totalGain = rsum (ds.map (fun d => posPart d.netGain)) ∧
    s.totalLoss = rsum (ds.map (fun d => negPart d.netGain)) ∧
    s.netGain = s.totalGain - s.totalLoss ∧
    s.taxable = max 0 (s.netGain - s.exempt) ∧
    (s.divIncome, s.divTax) = dividendsOf l y := by
  obtain ⟨e, he, rfl⟩ := mkSummary_ok.mp h
  exact ⟨rfl, rfl, he, (C04_totals ds).1, (C04_totals ds).2, rfl, rfl, rfl⟩

theorem C04_dividends (l : List Tx) (y : Int) :
    dividendsOf l y = (rsum ((l.filter (isDivIn y)).map divValue), rsum ((l.filter (isDivIn y)).map divTaxOf)) := rfl

/-- every year of a successful report was built by `mkSummary`, so `C04_summary` applies to it. The
    statement leaves `ds` open; by `mkSummary_ok` it is `s.disposals` -/
theorem C04_report_years (w : Int) (dp : Nat) (ex : List (Int × Rat)) (year : Option Int) (l : List Tx)
    (r : Report) (h : calculate w dp ex year l = .ok r) :
    ∀ s ∈ r.years, ∃ ds, mkSummary ex l s.year ds = .ok s := by
  obtain ⟨rs, _, h⟩ := calculate_ok.mp h
  intro s hs
  have : ∃ y ds, mkSummary ex l y ds = .ok s := by
    cases year with
    | some y =>
      obtain ⟨s0, ho, rfl⟩ := reportFrom_some_ok.mp h
      cases List.mem_singleton.mp hs
      exact oneYear_from_mkSummary ho
    | none =>
      obtain ⟨ys, ha, rfl⟩ := reportFrom_none_ok.mp h
      obtain ⟨_, _, hm⟩ := allYears_ok.mp ha
      obtain ⟨y, _, hy⟩ := mapExcept_mem hm hs
      exact ⟨y, _, hy⟩
  obtain ⟨y, ds, hy⟩ := this
  exact ⟨ds, mkSummary_year hy ▸ hy⟩

/-- override files: a year present in the override list wins, any other year falls through to the
    embedded table (`HashMap::extend`) -/
theorem C04_override_lookup (over base : List (Int × Rat)) (y : Int) :
    lookupExemption (over ++ base) y =
      match lookupExemption over y with
      | some e => some e
      | none => lookupExemption base y := by
  rw [lookupExemption_append]
  cases lookupExemption over y <;> rfl

example : lookupExemption exemptions 2023 = some 6000 := by decide +kernel
example : lookupExemption exemptions 2013 = none := by decide +kernel


theorem lookup_last_override (emb : List (Int × Rat)) (fs : List OverrideFile) (o : List (Int × Rat)) (y : Int) :
    lookupExemption (loadWithOverrides emb (fs ++ [some o])) y =
      (lookupExemption o y).or (lookupExemption (loadWithOverrides emb fs) y) := by
  simp only [loadWithOverrides, List.foldl_append, List.foldl_cons, List.foldl_nil, extendTable, lookupExemption_append]

/-- an override file that names a year replaces (or adds) that year's amount … -/
theorem C04_override_replaces (emb over : List (Int × Rat)) (y : Int) (a : Rat)
    (h : lookupExemption over y = some a) :
    lookupExemption (loadWithOverrides emb [some over]) y = some a := by
  have := lookup_last_override emb [] over y
  rwa [h] at this

/-- … every other year keeps the embedded amount (or stays unconfigured) -/
theorem C04_override_keeps_rest (emb over : List (Int × Rat)) (y : Int)
    (h : lookupExemption over y = none) :
    lookupExemption (loadWithOverrides emb [some over]) y = lookupExemption emb y := by
  have := lookup_last_override emb [] over y
  rwa [h] at this

/-- an absent or unparseable override file changes nothing -/
theorem C04_absent_override (emb : List (Int × Rat)) (fs : List OverrideFile) :
    loadWithOverrides emb (none :: fs) = loadWithOverrides emb fs := rfl

/-- with both files (`./config.toml`, then `~/.config/cgt-tool/config.toml`) the later file wins
    where both name a year, and a year named by either is configured -/
theorem C04_two_overrides (emb o1 o2 : List (Int × Rat)) (y : Int) :
    lookupExemption (loadWithOverrides emb [some o1, some o2]) y =
      match lookupExemption o2 y with
      | some a => some a
      | none => match lookupExemption o1 y with
        | some a => some a
        | none => lookupExemption emb y := by
  refine (lookup_last_override emb [some o1] o2 y).trans ?_
  refine (congrArg _ (lookup_last_override emb [] o1 y)).trans ?_
  cases lookupExemption o2 y <;> cases lookupExemption o1 y <;> rfl

example : lookupExemption (loadWithOverrides exemptions [some [(2024, 1234), (2031, 5000)]]) 2024 = some 1234
    ∧ lookupExemption (loadWithOverrides exemptions [some [(2024, 1234), (2031, 5000)]]) 2031 = some 5000
    ∧ lookupExemption (loadWithOverrides exemptions [some [(2024, 1234), (2031, 5000)]]) 2023 = some 6000 := by
  decide +kernel
end Cgt.C04
