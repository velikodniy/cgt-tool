import CgtModel.Mcp
import CgtModel.Generated
/-! # C20 — the MCP server answers every request, statelessly, whatever came before

Partial: the real transport (rmcp/tokio, stdio framing, scheduling) is observed by the check, not
proved. Proved for the transition system "receive a request / complete any in-flight request":
* `C20_invariant` — in every reachable state no id is answered twice, no id is both in flight and
  answered, and every received id is in flight or answered, whatever the order of completions;
* `C20_drained_means_each_answered_once` — once nothing is in flight, the answered ids are exactly the
  received ids, each once;
* `C20_completion_order_irrelevant` — two runs that receive the same ids and drain answer the same set.
Statelessness (each answer depends only on its own arguments) and equality with the CLI are checked
on the real server: the same request is sent at different positions of different sessions, sequentially
and pipelined, and every calculate_report answer is compared with `cgt-tool report --format json`;
every disposal it lists is then explained with explain_matching (whose own 6-April test is the
extracted `mcpYear*` constants, proved equal to the calculator's under C07).
Known findings: D15 (rmcp drops requests with an unknown method or without params, and exits on a
non-JSON line) and D9 (a panicking calculation is never answered).
-/
namespace Cgt.C20
open Cgt.Mcp

/-- the invariant `Inv` in two facts -/
def Bal (s : Srv) : Prop := s.received.Nodup ∧ s.received.Perm (s.inflight ++ s.answered)

theorem Bal.inv {s : Srv} (h : Bal s) : Inv s := by
  have hn := h.2.nodup_iff.mp h.1
  obtain ⟨hi, ha, hd⟩ := List.nodup_append.mp hn
  exact ⟨h.1, hi, ha, fun id h1 h2 => hd id h1 id h2 rfl, fun id => by rw [h.2.mem_iff, List.mem_append]⟩

theorem bal_step (s : Srv) (e : Ev) (h : Bal s) : Bal (step s e) := by
  obtain ⟨hn, hp⟩ := h
  cases e with
  | recv id =>
    simp only [step]
    split
    · exact ⟨hn, hp⟩
    · rename_i hm
      refine ⟨List.nodup_append.mpr ⟨hn, (by simp : [id].Nodup), fun a ha b hb => ?_⟩, ?_⟩
      · rw [List.mem_singleton.mp hb]; exact fun e => hm (e ▸ ha)
      · -- r ++ [id] ~ (i ++ [id]) ++ a
        exact (hp.append_right [id]).trans (by
          rw [List.append_assoc, List.append_assoc]; exact List.perm_append_comm.append_left _)
  | complete id =>
    simp only [step]
    split
    · rename_i hm
      refine ⟨hn, hp.trans ?_⟩
      -- i ++ a ~ i.erase id ++ (a ++ [id])
      have : (s.inflight ++ s.answered).Perm (id :: (s.inflight.erase id ++ s.answered)) :=
        (List.perm_cons_erase hm).append_right _
      exact this.trans (by
        rw [← List.append_assoc]; exact (List.perm_append_singleton id _).symm)
    · exact ⟨hn, hp⟩

theorem C20_invariant (evs : List Ev) : Inv (run {} evs) := by
  have : ∀ (s : Srv), Bal s → Bal (run s evs) := by
    induction evs with
    | nil => exact fun s h => h
    | cons e es ih => exact fun s h => ih _ (bal_step s e h)
  exact (this {} ⟨List.nodup_nil, List.Perm.nil⟩).inv

theorem C20_drained_means_each_answered_once (evs : List Ev) (h : (run {} evs).inflight = []) :
    (run {} evs).answered.Nodup ∧ ∀ id, id ∈ (run {} evs).received ↔ id ∈ (run {} evs).answered := by
  have inv := C20_invariant evs
  refine ⟨inv.nodup_ans, ?_⟩
  intro id
  rw [inv.cover id, h]
  simp

theorem C20_completion_order_irrelevant (e1 e2 : List Ev)
    (h1 : (run {} e1).inflight = []) (h2 : (run {} e2).inflight = [])
    (hr : ∀ id, id ∈ (run {} e1).received ↔ id ∈ (run {} e2).received) :
    ∀ id, id ∈ (run {} e1).answered ↔ id ∈ (run {} e2).answered := by
  intro id
  rw [← (C20_drained_means_each_answered_once e1 h1).2 id, ← (C20_drained_means_each_answered_once e2 h2).2 id]
  exact hr id

theorem mcp_year_constants : Cgt.mcpYearMonth = 4 ∧ Cgt.mcpYearMonth2 = 4 ∧ Cgt.mcpYearDay = 6 := by decide

example : (run {} [.recv 1, .recv 2, .complete 2, .recv 3, .complete 1, .complete 3]).answered = [2, 1, 3] := by
  decide

/-- a lemma about `List.find?` on any type. It is the shape of `find_disposal`'s search (the first listed
    disposal that passes the request's (date, ticker) test; for an accepted run C12's `allDisposals_antisymm`
    gives the uniqueness), but the model has no `find_disposal` and the lemma is not instantiated -/
theorem find_listed {α : Type} (p : α → Bool) (x : α) : ∀ (ds : List α), x ∈ ds → p x = true →
    (∀ z ∈ ds, p z = true → z = x) → ds.find? p = some x := by
  intro ds hm hp hu
  cases h : ds.find? p with
  | none => exact absurd hp (List.find?_eq_none.mp h x hm)
  | some z => rw [hu z (List.mem_of_find?_eq_some h) (List.find?_some h)]

example : [3, 5, 8, 5].find? (fun n => n == 8) = some 8 := by decide

end Cgt.C20
