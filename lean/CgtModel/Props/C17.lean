import CgtModel.Format
import CgtModel.Lemmas.Round
/-! # C17 — text, JSON, PDF and MCP front-ends present the same figures

The check takes the implementation's full-precision report and compares every monetary string of the
plain-text report and of the JSON report (and the MCP tools' JSON, which is the same serialiser) with
the Lean formatter model, and parses each string back to compare its value with half-away rounding of
the computed value.

What is proved is about the integers the formatters print, not about strings: no theorem mentions
`fmtGbp`, `fmtCurrencyAmount` or `jsonMoney` (the `example`s evaluate them). There is one rule for every
currency, `minorUnits k`: it is `roundHalfAway k` scaled (`C17_minorUnits_is_roundHalfAway`), hence
within half a minor unit of the value (`C17_foreign_value_is_close`); it is odd in the value
(`minorUnits_neg`) and exact on midpoints (`C17_foreign_midpoints_away`). Pounds are the case k = 2
(`C17_pence_is_minorUnits`), from which `C17_pence_is_roundHalfAway`, `C17_shown_value_is_close` and
`C17_midpoints_go_away_from_zero` are read off.
Two theorems pin extracted constants whose values the model hard-codes (`pence` rounds half away from
zero to two places whatever they say): `C17_json_and_text_round_alike` (re-read from models.rs and
cgt-format on every run; on the snapshot under test the JSON one was banker's rounding — known finding
D8, repaired; `C17_half_even_differs_on_midpoint` is the witness, 12.5 pence) and
`C17_pdf_rounds_like_text`.
PDF: the text runs of the compiled Typst document (hook `verif_text_runs`, behind
`--cfg velikodniy_cgt_tool_verif`) are compared figure by figure with the exact value rounded to pence;
the f64 rounding defect (D8b) was repaired (figures now reach the template as exact decimals), and the
extractor group `pdf_round` checks that this stays so.
-/
namespace Cgt.C17
open Cgt Cgt.Format

theorem C17_minorUnits_is_roundHalfAway (k : Nat) (x : Rat) :
    ((minorUnits k x : Int) : Rat) / pow10 k = roundHalfAway k x := by
  unfold minorUnits roundHalfAway
  split <;> simp only [Rat.intCast_neg]

theorem C17_foreign_value_is_close (k : Nat) (x : Rat) :
    rabs (((minorUnits k x : Int) : Rat) / pow10 k - x) ≤ 1 / (2 * pow10 k) := by
  rw [C17_minorUnits_is_roundHalfAway]
  exact roundHalfAway_close k x

theorem minorUnits_zero (k : Nat) : minorUnits k 0 = 0 := by
  unfold minorUnits
  rw [Rat.zero_mul]
  decide +kernel

theorem minorUnits_neg (k : Nat) (x : Rat) : minorUnits k (-x) = -minorUnits k x := by
  by_cases h0 : x = 0
  · rw [h0, Rat.neg_zero, minorUnits_zero]
    rfl
  · unfold minorUnits
    rw [Rat.neg_mul, rabs_neg]
    by_cases hx : x < 0
    · rw [if_pos hx, if_neg (by grind), Int.neg_neg]
    · rw [if_neg hx, if_pos (by grind)]

theorem minorUnits_half (k n : Nat) : minorUnits k ((((n : Int) : Rat) + 1/2) / pow10 k) = n + 1 := by
  have hP := pow10_pos k
  have hn : (0 : Rat) ≤ ((n : Int) : Rat) := by exact_mod_cast Int.natCast_nonneg n
  have hx : ¬ (((n : Int) : Rat) + 1/2) / pow10 k < 0 := by
    have := Rat.mul_pos (by grind : 0 < ((n : Int) : Rat) + 1/2) (Rat.inv_pos.mpr hP)
    rw [Rat.div_def]
    grind
  unfold minorUnits
  rw [Rat.div_mul_cancel (by grind), if_neg hx, show rabs (((n : Int) : Rat) + 1/2) = _ from if_neg (by grind),
    floor_add_half, if_pos (by grind)]

theorem C17_foreign_midpoints_away (k : Nat) (n : Nat) :
    minorUnits k ((((n : Int) : Rat) + 1/2) / pow10 k) = n + 1 ∧
    minorUnits k (-((((n : Int) : Rat) + 1/2) / pow10 k)) = -((n : Int) + 1) := by
  rw [minorUnits_neg, minorUnits_half]
  exact ⟨rfl, rfl⟩

theorem C17_pence_is_minorUnits (x : Rat) : pence x = minorUnits 2 x := by
  unfold pence minorUnits
  rw [pow10_two]

theorem C17_pence_is_roundHalfAway (x : Rat) : ((pence x : Int) : Rat) / 100 = roundHalfAway 2 x := by
  rw [C17_pence_is_minorUnits, ← pow10_two]
  exact C17_minorUnits_is_roundHalfAway 2 x

theorem C17_shown_value_is_close (x : Rat) : rabs (((pence x : Int) : Rat) / 100 - x) ≤ 1 / 200 := by
  have := C17_foreign_value_is_close 2 x
  rwa [← C17_pence_is_minorUnits, pow10_two, show (2 : Rat) * 100 = 200 by grind] at this

theorem C17_midpoints_go_away_from_zero (k : Nat) :
    pence (((k : Int) : Rat) / 100 + 1 / 200) = k + 1 ∧ pence (-(((k : Int) : Rat) / 100 + 1 / 200)) = -((k : Int) + 1) := by
  have := C17_foreign_midpoints_away 2 k
  rwa [pow10_two, show (((k : Int) : Rat) + 1/2) / 100 = ((k : Int) : Rat) / 100 + 1 / 200 by grind,
    ← C17_pence_is_minorUnits, ← C17_pence_is_minorUnits] at this

example : fmtCurrencyAmount "USD" 2 (12345/1000) = "12.35 USD" := by decide +kernel
example : fmtCurrencyAmount "JPY" 0 (201/2) = "101 JPY" := by decide +kernel
example : fmtCurrencyAmount "KWD" 3 (-20125/10000) = "-2.013 KWD" := by decide +kernel
example : fmtCurrencyAmount "GBP" 2 (1/8) = "£0.13" := by decide +kernel

/-- the extracted constants of the PDF path: figures reach the template as exact decimals (no
    binary-float conversion on the way), money is rounded to as many digits as in the text report,
    quantities to six. That the PDF's figures then equal `fmtGbp` of the values is what the check
    compares on the compiled document; it is not stated here -/
theorem C17_pdf_rounds_like_text :
    pdfMoneyExactDecimal = true ∧ pdfMoneyDp = displayMoneyDp ∧ pdfQtyDp = 6 := by decide

/-- 1.005, the value on which the PDF differed before D8b's repair, is a midpoint: rounded exactly it
    is shown as 1.01 (nothing about its float image is in the model) -/
example : fmtGbp (1005/1000) = "£1.01" := by decide +kernel

/-- pins four extracted constants: the JSON serialiser's rounding mode and digits are the text
    formatter's, and these are half away from zero and 2 — the values `pence` hard-codes. Nothing a theorem
    speaks of reads these constants (the driver passes `jsonMoneyHalfAway` to `jsonMoney`) -/
theorem C17_json_and_text_round_alike :
    jsonMoneyHalfAway = displayMoneyHalfAway ∧ jsonMoneyDp = displayMoneyDp ∧ displayMoneyHalfAway = true ∧ displayMoneyDp = 2 := by
  decide

theorem C17_half_even_differs_on_midpoint : pence (1/8) = 13 ∧ penceEven (1/8) = 12 := by decide +kernel

example : fmtGbp (-1234567891/1000) = "-£1,234,567.89" := by decide +kernel
example : fmtGbp (1/8) = "£0.13" := by decide +kernel
example : fmtTaxYear 2099 = "2099/00" := by decide +kernel

end Cgt.C17
