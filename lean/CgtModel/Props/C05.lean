import CgtModel.Lemmas.Covered
import CgtModel.Props.C02
-- Props.C02: `C02.isOk` in the examples, Lemmas/WellFormed and Lemmas/Report through it, and the audit of C05
-- reaches the `Formulas.*` names listed under it through this import
/-! # C05 — a report is produced exactly when every sale is covered by shares held

Statement: with no other obstacle (rates, exemptions, over-large capital return), a report is produced
iff for every security and date the shares acquired up to and including that date (rescaled by splits)
cover the shares sold up to and including that date; an uncovered sale fails with an error naming the
security and the date; a repurchase within the next 30 days never legitimises selling shares not held.

Proved for the model of the matcher (after the repair recorded as D2 in known_findings.json: the
holding check subtracts shares already sold against later purchases):
* `C05_accept_iff_covered` — the main pass of one security succeeds iff `covered 0 days`;
* `C05_error_names_security_and_day` — otherwise the error is `exceedsHolding` for that security on
  one of its days (not shown: that it is the day of the uncovered sale, and which security's error a refused
  `run` returns);
* `C05_later_lines_cannot_legitimise` — `covered` of a history only looks backwards: appending any
  later days (repurchases) to an uncovered history leaves it uncovered;
* `C05_run_accepts_iff` — all securities together: the run succeeds iff every security passes its
  cost pre-pass (the "over-large capital return" obstacle) and is covered; `C05_ledger` — the same from the
  raw ledger (`WellFormed`), no hypothesis on intermediate data.
"No partial output from any front-end" is the CLI/MCP half; it is observed by the correspondence check
(exit status, empty stdout, no output file, MCP error response) and modelled under C15.
-/
namespace Cgt.C05
open Cgt

theorem C05_accept_iff_covered (t : String) (w : Int) (ds : List Day) (hok : daysOk ds) :
    (∃ r, runDays t w none ds [] = .ok r) ↔ covered 0 ds :=
  runDays_ok_iff_covered t w ds hok

theorem C05_error_names_security_and_day (t : String) (w : Int) (ds : List Day) (hok : daysOk ds)
    (hn : ¬ covered 0 ds) :
    ∃ e, runDays t w none ds [] = .error e ∧ e.kind = .exceedsHolding ∧ e.ticker = t ∧
      ∃ d ∈ ds, e.ord = d.ord :=
  (runDays_iff_start t w ds hok).2 hn

theorem C05_later_lines_cannot_legitimise (ds es : List Day) : ∀ p : Rat,
    covered p (ds ++ es) → covered p ds := by
  induction ds with
  | nil =>
    intro p _
    trivial
  | cons d ds ih =>
    intro p h
    exact ⟨h.1, ih _ h.2⟩

theorem C05_run_accepts_iff (w : Int) (l : List Tx)
    (hok : ∀ t ∈ tickersOf (preprocess l), daysOk (daysOf t (preprocess l))) :
    (∃ rs, run w l = .ok rs) ↔
      ∀ t ∈ tickersOf (preprocess l),
        (∃ ds', withOffsets t (daysOf t (preprocess l)) = .ok ds') ∧ covered 0 (daysOf t (preprocess l)) :=
  (run_ok_iff w l).trans (forall_congr' fun t => forall_congr' fun ht => runTicker_ok_iff t w (hok t ht))

theorem C05_ledger (w : Int) (l : List Tx) (hwf : WellFormed l) :
    (∃ rs, run w l = .ok rs) ↔
      ∀ t ∈ tickersOf (preprocess l),
        (∃ ds', withOffsets t (daysOf t (preprocess l)) = .ok ds') ∧ covered 0 (daysOf t (preprocess l)) :=
  C05_run_accepts_iff w l (fun t _ => (wellFormed_days l hwf t).1)

-- non-vacuity and the D2 witness: 100 bought, 100 + 100 sold on consecutive days, 100 bought back
def d2Days : List Day :=
  [ { date := ⟨2024, 1, 1⟩, buy := some ⟨0, 100, 1, 0⟩ },
    { date := ⟨2024, 2, 1⟩, sells := [⟨1, 100, 2, 0⟩] },
    { date := ⟨2024, 2, 2⟩, sells := [⟨2, 100, 2, 0⟩] },
    { date := ⟨2024, 2, 10⟩, buy := some ⟨3, 100, 3, 0⟩ } ]

example : C02.isOk (runTicker "A" 30 d2Days) = false := by decide +kernel
example : C02.isOk (runTicker "A" 30 (d2Days.take 2)) = true := by decide +kernel
example : ¬ covered 0 d2Days := by
  intro h
  have := h.2.2.1
  revert this
  decide +kernel

end Cgt.C05
