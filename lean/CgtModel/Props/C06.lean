import CgtModel.Props.C01
import CgtModel.Props.C13
/-! # C06 — the report does not depend on line order, file split or fill splitting

Full statement: permuting the input lines, distributing them over files, or recording one trade as
several same-day fills with the same total quantity, consideration and fees yields the same report.

Proved here (partial — what is missing is listed at the end):
* `C06_sort_is_permutation`, `C06_sort_sorted` — the matcher's first step only reorders: the sorted
  list is a permutation of the input and ascending by date, so everything after it sees the same
  multiset of lines per day whatever the input order;
* `C06_merge_value`, `C06_merge_comm_value` — merging fills preserves total quantity, total consideration
  (quantity × price) and total fees, in whichever order they are merged (`mergeTrade` is the only place where
  fills meet);
* `C06_merge_assoc_value` — merging (a then b) then c and a then (b then c) give the same totals;
* `C06_day_add_comm` — within a day, a BUY line commutes with a line of any other kind (SELL, SPLIT/UNSPLIT,
  cost event, dividend); two non-BUY lines of different kinds are not covered;
* `C06_run_factors` — the whole run depends on the input only through the list of securities
  `tickersOf (preprocess l)` and the per-security day lists `daysOf t (preprocess l)`.
* `C06_statute_permutation_invariant`, `C06_statute_fill_invariant` — the independent statutory
  evaluation (`Spec`, the oracle C01 compares the real matcher with on every run) is invariant under
  every permutation of the input lines, for every ledger whose dates are valid with years ≥ 1
  (`Spec.DatesOk`; the parser also lets year 0000 through), and absorbs two same-day fills exactly as the
  one trade with the same total quantity, consideration and fees.
* `C06_ledger_perm`, `C06_ledger_fills` — **for the matcher model, from the raw ledger** (through C01's
  `C01_ledger_raw`, matcher = `Spec`): two orders of the same lines, or a purchase recorded as two
  same-day fills, both ledgers validator-clean with such dates and accepted: every security without
  capital events whose SELL lines fall on different days has the same legs (rule, quantity, allowable
  cost, acquisition date, in order) and the same closing pool.
Not proved: the same for securities with capital events or with several SELL lines on one day (there the
leg partition does follow line adjacency: known finding D17), and SELL fills at ledger level (two SELL
lines on a day leave the class; at `Spec` level they are covered by `C06_statute_fill_invariant`). The
check exercises all of it on the real code: every generated ledger is re-run under random permutations,
random fill splittings and real multi-file CLI partitions and the reports are compared.
-/
namespace Cgt.C06
open Cgt Spec

theorem C06_sort_is_permutation (l : List Tx) : (sortByDate l).Perm l := sortByDate_perm l

theorem C06_sort_sorted (l : List Tx) : (sortByDate l).Pairwise (fun a b => a.ord ≤ b.ord) :=
  sortByDate_sorted l

theorem C06_merge_value (q p f q' p' f' : Rat) (h : q + q' ≠ 0) :
    let m := mergeTrade q p f q' p' f'
    m.1 = q + q' ∧ m.1 * m.2.1 = q * p + q' * p' ∧ m.2.2 = f + f' :=
  mergeTrade_value q p f q' p' f' h

theorem C06_merge_comm_value (q p f q' p' f' : Rat) (h : q + q' ≠ 0) :
    let a := mergeTrade q p f q' p' f'
    let b := mergeTrade q' p' f' q p f
    a.1 = b.1 ∧ a.1 * a.2.1 = b.1 * b.2.1 ∧ a.2.2 = b.2.2 := by
  have ha := mergeTrade_value q p f q' p' f' h
  have hb := mergeTrade_value q' p' f' q p f (by grind)
  dsimp only at ha hb ⊢
  rw [ha.2.1, ha.1, ha.2.2, hb.2.1, hb.1, hb.2.2]
  exact ⟨Rat.add_comm .., Rat.add_comm .., Rat.add_comm ..⟩

theorem C06_merge_assoc_value (q1 p1 f1 q2 p2 f2 q3 p3 f3 : Rat)
    (h12 : q1 + q2 ≠ 0) (h23 : q2 + q3 ≠ 0) (h : q1 + q2 + q3 ≠ 0) :
    let a := mergeTrade q1 p1 f1 q2 p2 f2
    let ab := mergeTrade a.1 a.2.1 a.2.2 q3 p3 f3
    let b := mergeTrade q2 p2 f2 q3 p3 f3
    let ba := mergeTrade q1 p1 f1 b.1 b.2.1 b.2.2
    ab.1 = ba.1 ∧ ab.1 * ab.2.1 = ba.1 * ba.2.1 ∧ ab.2.2 = ba.2.2 := by
  have ha := mergeTrade_value q1 p1 f1 q2 p2 f2 h12
  have hb := mergeTrade_value q2 p2 f2 q3 p3 f3 h23
  dsimp only at ha hb ⊢
  have hab := mergeTrade_value _ (mergeTrade q1 p1 f1 q2 p2 f2).2.1 (mergeTrade q1 p1 f1 q2 p2 f2).2.2 q3 p3 f3
    (ha.1 ▸ h)
  have hba := mergeTrade_value q1 p1 f1 _ (mergeTrade q2 p2 f2 q3 p3 f3).2.1 (mergeTrade q2 p2 f2 q3 p3 f3).2.2
    (hb.1 ▸ Rat.add_assoc q1 q2 q3 ▸ h)
  dsimp only at hab hba
  rw [hab.2.1, hab.1, hab.2.2, hba.2.1, hba.1, hba.2.2, ha.2.1, ha.1, ha.2.2, hb.2.1, hb.1, hb.2.2]
  exact ⟨Rat.add_assoc .., Rat.add_assoc .., Rat.add_assoc ..⟩

def Op.isTrade : Op → Bool | .buy .. => true | .sell .. => true | _ => false

theorem C06_day_add_comm (d : Day) (i j : Nat) (q p f : Rat) (op : Op)
    (h : match op with | .buy .. => False | _ => True) :
    (d.add i (.buy q p f)).add j op = (d.add j op).add i (.buy q p f) := by
  cases op <;> simp only [Day.add] at h ⊢ <;> (try exact absurd h id) <;> (cases d.buy <;> rfl)

theorem C06_run_factors (w : Int) (l l' : List Tx)
    (ht : tickersOf (preprocess l) = tickersOf (preprocess l'))
    (hd : ∀ t, daysOf t (preprocess l) = daysOf t (preprocess l')) : run w l = run w l' := by
  unfold run runPre
  simp only [ht, hd]

theorem C06_statute_permutation_invariant (w : Int) (l l' : List Tx) (hp : l.Perm l') (hd : Spec.DatesOk l)
    (ticker : String) : Spec.identify w ticker l = Spec.identify w ticker l' :=
  identify_of_table (table_perm ticker l l' hp hd) w

theorem C06_statute_fill_invariant (d : Spec.SDay) (q1 p1 f1 q2 p2 f2 q p f : Rat)
    (hq : q1 + q2 = q) (hc : q1 * p1 + q2 * p2 = q * p) (hf : f1 + f2 = f) :
    (d.absorb (.buy q1 p1 f1)).absorb (.buy q2 p2 f2) = d.absorb (.buy q p f) ∧
    (d.absorb (.sell q1 p1 f1)).absorb (.sell q2 p2 f2) = d.absorb (.sell q p f) :=
  ⟨Spec.absorb_fills_buy d hq hc hf, Spec.absorb_fills_sell d hq hc hf⟩

-- non-vacuity of `DatesOk`: a two-line ledger across a leap day
example : Spec.DatesOk [⟨⟨2024, 2, 29⟩, "A", .buy 10 2 1⟩, ⟨⟨2024, 3, 1⟩, "A", .sell 4 3 0⟩] := by
  intro t ht
  simp only [List.mem_cons, List.mem_nil_iff, or_false] at ht
  rcases ht with rfl | rfl <;> exact Date.ok_of_valid _ (by decide) (by decide)

theorem C06_ledger_perm (l l' : List Tx) (hp : l.Perm l') (hw : WellFormed l) (hd : Spec.DatesOk l)
    (rs rs' : List TickerResult) (h : run bnbWindowDays l = .ok rs) (h' : run bnbWindowDays l' = .ok rs') :
    ∀ r ∈ rs, ∀ r' ∈ rs', r'.ticker = r.ticker → noEventLines r.ticker l → oneSellPerDay r.ticker l →
      r'.legs.map legView = r.legs.map legView ∧ poolQ' r'.pool = poolQ' r.pool ∧ poolC' r'.pool = poolC' r.pool := by
  intro r hr r' hr' ht hne hone
  have hmem : ∀ {P : Tx → Prop}, (∀ x ∈ l, P x) → ∀ x ∈ l', P x := fun h x hx => h x (hp.mem_iff.mpr hx)
  exact C01.ledger_congr id r.ticker l l' hw hd hne hone (hmem hw) (hmem hd) (hmem hne) (oneSellPerDay_perm hp hone)
    (identify_of_table (table_perm r.ticker l l' hp hd) _ ▸ ⟨rfl, rfl, rfl⟩) rs rs' h h' r hr r' hr' rfl ht

/-- the two fills stand at the end of the ledger; any other position by `C06_ledger_perm` -/
theorem C06_ledger_fills (t : String) (D : Date) (q1 p1 f1 q2 p2 f2 q p f : Rat)
    (hq : q1 + q2 = q) (hc : q1 * p1 + q2 * p2 = q * p) (hf : f1 + f2 = f) (l0 : List Tx)
    (hw : WellFormed (l0 ++ [⟨D, t, .buy q p f⟩])) (hd : Spec.DatesOk (l0 ++ [⟨D, t, .buy q p f⟩]))
    (hw' : WellFormed (l0 ++ [⟨D, t, .buy q1 p1 f1⟩, ⟨D, t, .buy q2 p2 f2⟩]))
    (rs rs' : List TickerResult) (h : run bnbWindowDays (l0 ++ [⟨D, t, .buy q p f⟩]) = .ok rs)
    (h' : run bnbWindowDays (l0 ++ [⟨D, t, .buy q1 p1 f1⟩, ⟨D, t, .buy q2 p2 f2⟩]) = .ok rs') :
    ∀ r ∈ rs, ∀ r' ∈ rs', r'.ticker = r.ticker →
      noEventLines r.ticker (l0 ++ [⟨D, t, .buy q p f⟩]) → oneSellPerDay r.ticker (l0 ++ [⟨D, t, .buy q p f⟩]) →
      r'.legs.map legView = r.legs.map legView ∧ poolQ' r'.pool = poolQ' r.pool ∧ poolC' r'.pool = poolC' r.pool := by
  intro r hr r' hr' ht hne hone
  have ⟨hd0, hdb⟩ := List.forall_mem_append.mp hd
  have hdb := hdb _ (List.mem_singleton_self _)
  have hd' : Spec.DatesOk (l0 ++ [⟨D, t, .buy q1 p1 f1⟩, ⟨D, t, .buy q2 p2 f2⟩]) :=
    List.forall_mem_append.mpr ⟨hd0, List.forall_mem_cons.mpr ⟨hdb, List.forall_mem_singleton.mpr hdb⟩⟩
  have hne' : noEventLines r.ticker (l0 ++ [⟨D, t, .buy q1 p1 f1⟩, ⟨D, t, .buy q2 p2 f2⟩]) :=
    List.forall_mem_append.mpr ⟨(List.forall_mem_append.mp hne).1,
      List.forall_mem_cons.mpr ⟨fun _ => rfl, List.forall_mem_singleton.mpr fun _ => rfl⟩⟩
  have hone' : oneSellPerDay r.ticker (l0 ++ [⟨D, t, .buy q1 p1 f1⟩, ⟨D, t, .buy q2 p2 f2⟩]) := by
    unfold oneSellPerDay at hone ⊢
    rw [sellOrds_append] at hone ⊢
    simpa [sellOrds, so, Op.isSell] using hone
  exact C01.ledger_congr id r.ticker _ _ hw hd hne hone hw' hd' hne' hone'
    (identify_of_table (table_fills r.ticker t D q1 p1 f1 q2 p2 f2 q p f hq hc hf l0) _ ▸ ⟨rfl, rfl, rfl⟩)
    rs rs' h h' r hr r' hr' rfl ht

/-- **lines dealt over several input files**: the CLI joins the files' texts with a line feed (translator
    group `cli_join`), and the joined text parses to the concatenation of the files' transaction lists
    (`C13.parse_joined_files`), whatever the last line of a file looks like; which file a line sits in
    therefore only decides its position in the list, and `C06_ledger_perm` covers every such position -/
theorem C06_files_are_one_list (valid : List String) (a b : List Char) :
    C13.okList valid (a ++ '\n' :: b) = (match C13.okList valid a, C13.okList valid b with
      | some x, some y => some (x ++ y)
      | _, _ => none) ∧ Cgt.cliFileJoin = "\n" :=
  ⟨C13.parse_joined_files valid a b, C13.C13_files_joined_by_line_feed⟩

end Cgt.C06
