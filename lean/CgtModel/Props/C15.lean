import CgtModel.Lemmas.Validate
/-! # C15 — every input yields either a complete report or a clean error, never a crash

Partial by nature: absence of panics and hangs in the real process is not a statement about a model.
Proved for the model:
* `C15_validator_iff` — the standalone validator reports an error exactly when some quantity is zero or
  negative, some price, fee or total value is negative, or a split ratio is not positive;
  `C15_validator_as_modelled` — a change detector: the error sites of validation.rs as the translator
  reads them on every run (group `validator`: every `if <field> <cmp> Decimal::ZERO {
  result.errors.push(…` by site, and which field each trade-like arm passes as its price) are still
  the list against which `opErrors` was written by hand. The statement mentions neither `opErrors`
  nor `opBad`: that `opErrors` makes exactly these comparisons is read off Validate.lean, not proved;
* `C15_failure_writes_nothing`, `C15_success_writes_once`, `C15_default_pdf_never_overwrites` — the
  CLI's output discipline: a failing stage gives a non-zero exit, nothing on standard output and no
  file written; success writes the payload to exactly the chosen sink; the default PDF path is never
  overwritten. These restate `runCli` and `pdfDefault`, whose inputs are the stages' outcomes: their
  content is the modelling decision that every write comes after every fallible stage. The write
  itself cannot fail in the model.
That every function of the model is total has no Lean statement: it is that no definition is `partial`
(the matcher, the pre-pass, the look-ahead, the parser and the look-back recurse structurally or on
explicit fuel).
Observed by the check on the real code: the library entry points under `catch_unwind` and the real
binary on arbitrary bytes and hostile ledgers (exit status, stdout, output files, time limit). Known
finding D9: unchecked `rust_decimal` arithmetic panics on overflow for magnitudes near the top of the
numeric range (class `overflowMagnitude`).
-/
namespace Cgt.C15
open Cgt

theorem C15_validator_iff (l : List Tx) : validateErrors l ≠ [] ↔ ∃ t ∈ l, opBad t.op := by
  unfold validateErrors
  induction l with
  | nil => simp
  | cons t ts ih =>
    simp only [List.map_cons, List.flatten_cons, append_ne_nil, ih, opErrors_iff, List.mem_cons, exists_eq_or_imp]

theorem C15_failure_writes_nothing (stages : List Bool) (payload : String) (sink : Sink)
    (h : stages.all id = false) :
    (runCli stages payload sink).exitCode ≠ 0 ∧ (runCli stages payload sink).stdout = none ∧
      (runCli stages payload sink).written = [] := by
  simp [runCli, h]

theorem C15_success_writes_once (stages : List Bool) (payload : String) (h : stages.all id = true) :
    runCli stages payload .stdout = ⟨0, some payload, []⟩ ∧
    ∀ p, runCli stages payload (.file p) = ⟨0, none, [(p, payload)]⟩ := by
  simp [runCli, h]

theorem C15_default_pdf_never_overwrites (stages : List Bool) (payload path : String) :
    (pdfDefault true stages payload path).written = [] ∧ (pdfDefault true stages payload path).exitCode ≠ 0 := by
  unfold pdfDefault; split <;> simp

example : opBad (.buy 0 5 10) := by simp [opBad]
example : ¬ opBad (.buy 1 0 0) := by simp [opBad]; grind

/-- a change detector, not a statement about `opErrors`: the error sites of validation.rs that the
    translator reads (group `validator`) are still the list `opErrors` was written against by hand.
    `check_trade_fields` tests quantity = 0, quantity < 0, price < 0, fees < 0 and is called by BUY and SELL
    with their price and by CAPRETURN with its total value; SPLIT/UNSPLIT test ratio = 0 and ratio < 0;
    DIVIDEND tests total value < 0; ACCUMULATION tests quantity = 0, quantity < 0, total value < 0 -/
theorem C15_validator_as_modelled :
    Cgt.validatorChecks =
      [("trade", "fields.amount", "=="), ("trade", "fields.amount", "<"), ("trade", "fields.price.amount", "<"),
       ("trade", "fields.fees.amount", "<"), ("Buy", "check_trade_fields", "price"), ("Sell", "check_trade_fields", "price"),
       ("Split", "*ratio", "=="), ("Split", "*ratio", "<"), ("Unsplit", "*ratio", "=="), ("Unsplit", "*ratio", "<"),
       ("Dividend", "total_value.amount", "<"), ("Accumulation", "*amount", "=="), ("Accumulation", "*amount", "<"),
       ("Accumulation", "total_value.amount", "<"), ("CapReturn", "check_trade_fields", "total_value")] := rfl

end Cgt.C15
